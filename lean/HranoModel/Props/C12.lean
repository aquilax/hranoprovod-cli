import HranoModel.Lemmas.Walk
import HranoModel.Lemmas.Merge
import HranoModel.Lemmas.Accum
import HranoModel.Lemmas.Scan
import HranoModel.Lemmas.ParseLines
import HranoModel.Lemmas.Tree
/-!
C12 — reports compose over the log history.

Property theorems, with what the period reports accumulate as functions of the days processed (`periodContributions`,
`totalsAcc`, `quantityAcc`; `totalsAcc_eq`, `quantityAcc_value`).  A history is a concatenation of event lists (one record per heading);
nothing here assumes anything about the dates, so repeated dates and reordered days are covered.
For the balance the element-wise statement is about the amount the tree holds at every category path
(`balance_rows_additive`); the printed rows are tied to those amounts in C03.
-/
namespace Hrano.C12
open Hrano Hrano.App Hrano.Spec Hrano.Report

/-- Walking a concatenated history processes the days of the first part and then the days of the second:
    what was processed for the earlier part does not depend on what is appended. -/
theorem walk_composes (l : Layout) (b e : Option Int) (se : Option ScanErr) (evs₁ evs₂ : List Event)
    (h : (walk l b e none evs₁).2 = none) :
    (walk l b e se (evs₁ ++ evs₂)).1 = (walk l b e none evs₁).1 ++ (walk l b e se evs₂).1
    ∧ (walk l b e se (evs₁ ++ evs₂)).2 = (walk l b e se evs₂).2 := by
  rw [walk_append]
  rcases hw : walk l b e none evs₁ with ⟨d₁, _ | err⟩
  · simp
  · rw [hw] at h; cases h

/-- **Per-day reports compose**: register (default, left-aligned, old reporter), single-food and
    single-element registers of the concatenated history are the concatenation of the reports of the parts. -/
theorem register_composes (rc : RCfg) (db : Book) (a b : List LogDay)
    (h : rc.singleElement = [] ∨ rc.groupFood = false) :
    regOutput rc db (a ++ b) = regOutput rc db a ++ regOutput rc db b := by
  -- under `h` every branch of the dispatch is a per-day report (the branches are chosen by hand: `split` is slow on the renderers)
  have key : ∃ f, ∀ days, regOutput rc db days = perDay f days := by
    unfold regOutput
    by_cases h1 : (!rc.singleElement.isEmpty) = true
    · have hg : rc.groupFood = false := h.resolve_left fun he => by simp [he] at h1
      exact ⟨_, fun days => by rw [if_pos h1, hg, if_neg Bool.false_ne_true]⟩
    by_cases h2 : (!rc.singleFood.isEmpty) = true
    · exact ⟨_, fun days => by rw [if_neg h1, if_pos h2]⟩
    by_cases h3 : rc.oldReg = true
    · exact ⟨_, fun days => by rw [if_neg h1, if_neg h2, if_pos h3]⟩
    by_cases h4 : rc.leftAligned = true
    · exact ⟨_, fun days => by rw [if_neg h1, if_neg h2, if_neg h3, if_pos h4]⟩
    · exact ⟨_, fun days => by rw [if_neg h1, if_neg h2, if_neg h3, if_neg h4]⟩
  obtain ⟨f, hf⟩ := key
  rw [hf, hf, hf, perDay_append]

theorem csv_log_composes (a b : List LogDay) :
    perDay renderCsvLog (a ++ b) = perDay renderCsvLog a ++ perDay renderCsvLog b :=
  perDay_append _ a b

theorem print_composes (rc : RCfg) (a b : List LogDay) :
    perDay (renderPrint rc) (a ++ b) = perDay (renderPrint rc) a ++ perDay (renderPrint rc) b :=
  perDay_append _ a b

/-- the contributions a period report accumulates over a list of days -/
def periodContributions (db : Book) (days : List LogDay) : Elements :=
  dayContributions db (allElements days)

/-- the accumulator `report totals` prints, as a function of the days processed -/
def totalsAcc (db : Book) (days : List LogDay) : Accumulator :=
  (allElements days).foldl (fun a e => accumulate a (contributions db e)) []

theorem totalsAcc_eq (db : Book) (days : List LogDay) : totalsAcc db days = accumulate [] (periodContributions db days) :=
  accumulate_contributions db (allElements days)

/-- **Period totals are additive**: for every element, the positive and the negative register of the
    concatenated history are the sums of those of the parts (so is their sum). -/
theorem totals_additive (db : Book) (a b : List LogDay) (n : Bytes) :
    Accumulator.posAt (totalsAcc db (a ++ b)) n = Accumulator.posAt (totalsAcc db a) n + Accumulator.posAt (totalsAcc db b) n
    ∧ Accumulator.negAt (totalsAcc db (a ++ b)) n = Accumulator.negAt (totalsAcc db a) n + Accumulator.negAt (totalsAcc db b) n := by
  have happ : periodContributions db (a ++ b) = periodContributions db a ++ periodContributions db b := by
    simp [periodContributions, dayContributions, allElements_append]
  simp only [totalsAcc_eq, posAt_accumulate_nil, negAt_accumulate_nil, happ, posOf_append, negOf_append, and_self]

/-- `renderTotals` prints exactly that accumulator (sorted) -/
theorem totals_prints_acc (db : Book) (days : List LogDay) (h : (totalsAcc db days).isEmpty = false) :
    ∃ header, renderTotals days db = header ++ ((Accumulator.sorted (totalsAcc db days)).map (fun a =>
        Num.fmtFixedW 12 2 a.pos ++ [32, 32] ++ Num.fmtFixedW 12 2 a.neg ++ [32, 32]
        ++ Num.fmtFixedW 12 2 (a.pos + a.neg) ++ [32, 32] ++ a.name ++ [10])).flatten :=
  ⟨_, if_neg (h ▸ Bool.false_ne_true)⟩

/-- the per-food sums `report quantity` prints, as a function of the days processed -/
def quantityAcc (days : List LogDay) : Elements :=
  (allElements days).foldl (fun a e => Elements.addTo a e.name e.value) []

theorem quantityAcc_value (days : List LogDay) (n : Bytes) : Elements.valueAt (quantityAcc days) n = sumOf n (allElements days) :=
  mergeDay_value (allElements days) n

/-- **Quantities are additive** over the history -/
theorem quantity_additive (a b : List LogDay) (n : Bytes) :
    Elements.valueAt (quantityAcc (a ++ b)) n = Elements.valueAt (quantityAcc a) n + Elements.valueAt (quantityAcc b) n := by
  simp only [quantityAcc_value, allElements_append, sumOf_append]

/-- the balance tree of the concatenated history is the tree of the first part with the elements of the
    second part added to it (no state other than the tree is carried from day to day) -/
theorem balance_tree_composes (a b : List LogDay) :
    Tree.build (allElements (a ++ b)) = (allElements b).foldl Tree.addDeep (Tree.build (allElements a)) := by
  simp [Tree.build, allElements_append, List.foldl_append]

/-- **the balance of the concatenated history is the element-wise sum of the balances of its parts**: at every
    category path, the amount held by the tree of `a ++ b` is the amount held for `a` plus the amount held for `b` -/
theorem balance_rows_additive (a b : List LogDay) (q : List Bytes) :
    Spec.totalAt (Tree.build (allElements (a ++ b))) q
      = Spec.totalAt (Tree.build (allElements a)) q + Spec.totalAt (Tree.build (allElements b)) q := by
  rw [allElements_append]
  exact Spec.totalAt_build_append _ _ q

/-- the lines the scanner delivers for a text without over-long lines -/
theorem scan_lines_of_fit (s : Bytes) (h : ∀ l ∈ Scanner.rawLines s, l.length < PConst.maxToken) :
    (Scanner.scan s none).1 = (Scanner.rawLines s).map Scanner.dropCR := by
  rw [Scanner.scan_of_fit s h]

/-- **Appending to a log file.**  If the existing text ends with a newline and the appended text starts (after
    comments and blank lines) with a heading, the parse of the whole is the parse of the existing text followed
    by the parse of the appended text (error line numbers of the latter shifted by the number of existing
    lines): appending never changes what was parsed before. -/
theorem parse_text_concat (cc : UInt8) (u t₂ : Bytes)
    (hfit : ∀ l ∈ Scanner.rawLines (u ++ 10 :: t₂), l.length < PConst.maxToken)
    (hh : Parser.HeadFirst cc ((Scanner.rawLines t₂).map Scanner.dropCR)) :
    Parser.events cc (u ++ 10 :: t₂)
      = Parser.events cc (u ++ [10]) ++ (Parser.events cc t₂).map (Parser.shiftEvent (Bytes.splitOn 10 u).length) := by
  have hsplit := Scanner.rawLines_append u t₂
  have hfit₁ : ∀ l ∈ Scanner.rawLines (u ++ [10]), l.length < PConst.maxToken := by
    intro l hl
    rw [Scanner.rawLines_terminated] at hl
    exact hfit l (by rw [hsplit]; exact List.mem_append_left _ hl)
  have hfit₂ : ∀ l ∈ Scanner.rawLines t₂, l.length < PConst.maxToken :=
    fun l hl => hfit l (by rw [hsplit]; exact List.mem_append_right _ hl)
  unfold Parser.events
  rw [scan_lines_of_fit _ hfit, scan_lines_of_fit _ hfit₁, scan_lines_of_fit _ hfit₂, hsplit, Scanner.rawLines_terminated,
    List.map_append, Parser.parse_lines_concat cc _ _ hh]
  simp

end Hrano.C12
