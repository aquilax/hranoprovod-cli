import HranoModel.Lemmas.Chan
/-!
C18 — the channel parser delivers the callback parser's result under every schedule.

Property theorems only.  The model (`Model/Chan.lean`) is
the producer of `ParseStream` / `ParseFile` after the fixes recorded in known-findings.txt, a
consumer with one of the two policies, three rendezvous channels and explicit scheduling
choices.  "Every interleaving" is: every configuration reachable by any sequence of enabled
transitions.

What the model cannot exhibit: data races, memory-model effects, scheduler starvation.
-/
namespace Hrano.C18
open Hrano Hrano.Chan

/-- every execution is finite: a natural-number measure drops at every transition -/
theorem every_schedule_terminates (pol : Policy) (cfg cfg' : Config) (ch : Choice)
    (h : step pol cfg ch = some cfg') : measure cfg' < measure cfg := by
  cases step_sound h with
  | exit | offer | rendezvous =>
    simp only [Chan.measure, pm, cm, List.length_cons, List.length_nil]
    omega
  | handle p m =>
    show 2 * pm p + cm (if _ then _ else _) < 2 * pm p + 1
    split <;> exact Nat.lt_succ_self _

/-- the producer's message list always ends with `Done`, which is sent exactly once -/
theorem sends_end_with_done (evs : List Event) (scanErr : Bool) :
    ∃ pre, sends evs scanErr = pre ++ [Msg.done] ∧ Msg.done ∉ pre :=
  Chan.sends_end_with_done evs scanErr

/-- **Main theorem.**  In every terminal configuration reachable under any schedule, the consumer has
    returned and has received exactly the prefix of the producer's messages up to and including the
    first one its policy stops at — a function of the input and the policy alone. -/
theorem terminal_received (pol : Policy) (ms : List Msg) (hdone : Msg.done ∈ ms) (cfg : Config)
    (hr : Reachable pol ms cfg) (ht : terminal pol cfg = true) :
    cfg.c = CState.returned ∧ cfg.received = expected pol ms :=
  have h := terminal_spec hdone hr ht
  ⟨h.1, h.2.1⟩

/-- the documented consumer (return at the first error or at Done) sees the records before the first
    error, in order, followed by that error or by completion -/
theorem documented_consumer (evs : List Event) (scanErr : Bool) (cfg : Config)
    (hr : Reachable .stopAtFirstError (sends evs scanErr) cfg) (ht : terminal .stopAtFirstError cfg = true) :
    cfg.c = CState.returned ∧ cfg.received = expected .stopAtFirstError (sends evs scanErr) :=
  terminal_received _ _ (done_mem_sends evs scanErr) cfg hr ht

/-- a consumer that keeps receiving until Done sees every message exactly once (in particular each
    error once), and the producer goroutine has then exited -/
theorem draining_consumer (evs : List Event) (scanErr : Bool) (cfg : Config)
    (hr : Reachable .drain (sends evs scanErr) cfg) (ht : terminal .drain cfg = true) :
    cfg.c = CState.returned ∧ cfg.received = sends evs scanErr ∧ cfg.p = PState.exited := by
  obtain ⟨hc, hrcv, hp⟩ := terminal_spec (done_mem_sends evs scanErr) hr ht
  rw [expected_drain] at hrcv
  exact ⟨hc, hrcv, hp hrcv⟩

/-- the same for `ParseFile` on a path that cannot be opened: the I/O error once, then Done -/
theorem unreadable_file_drains (cfg : Config)
    (hr : Reachable .drain sendsUnreadable cfg) (ht : terminal .drain cfg = true) :
    cfg.c = CState.returned ∧ cfg.received = [Msg.ioerr, Msg.done] :=
  terminal_received .drain sendsUnreadable (by decide) cfg hr ht

/-- any schedule whatsoever, followed to a terminal configuration, yields the same received sequence -/
theorem schedule_independent (pol : Policy) (evs : List Event) (scanErr : Bool) (s₁ s₂ : List Choice)
    (h₁ : terminal pol (runSchedule pol s₁ (init (sends evs scanErr))) = true)
    (h₂ : terminal pol (runSchedule pol s₂ (init (sends evs scanErr))) = true) :
    (runSchedule pol s₁ (init (sends evs scanErr))).received = (runSchedule pol s₂ (init (sends evs scanErr))).received := by
  have r (s : List Choice) :=
    terminal_received pol _ (done_mem_sends evs scanErr) _ (runSchedule_reachable pol _ s _ .init)
  rw [(r s₁ h₁).2, (r s₂ h₂).2]

/-! non-vacuity: a concrete input with a record, a malformed line and a further record; two different
    complete schedules reach terminal configurations -/
def demoEvents : List Event :=
  [.node ⟨[50], [], []⟩, .error (.badSyntax 3 [32, 120]), .node ⟨[51], [], []⟩]

def roundRobin (n : Nat) : List Choice := (List.replicate n [Choice.producerStep, .rendezvous, .consumerStep]).flatten
def eager (n : Nat) : List Choice := (List.replicate n [Choice.consumerStep, .producerStep, .producerStep, .rendezvous]).flatten

example : terminal .drain (runSchedule .drain (roundRobin 6) (init (sends demoEvents false))) = true := by decide +kernel
example : terminal .drain (runSchedule .drain (eager 6) (init (sends demoEvents false))) = true := by decide +kernel
example : (runSchedule .drain (eager 6) (init (sends demoEvents false))).received
    = [.node ⟨[50], [], []⟩, .perr (.badSyntax 3 [32, 120]), .done] := by decide +kernel
example : (runSchedule .stopAtFirstError (roundRobin 6) (init (sends demoEvents false))).received
    = [.node ⟨[50], [], []⟩, .perr (.badSyntax 3 [32, 120])] := by decide +kernel

end Hrano.C18
