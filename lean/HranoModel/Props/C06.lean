import HranoModel.Lemmas.Walk
import HranoModel.Lemmas.DayCount
import HranoModel.Lemmas.DateInv
import HranoModel.Lemmas.DateRT
import HranoModel.Lemmas.Run
/-!
C06 — date range selection is exact, inclusive and independent of layout and time zone.

Property theorems.  Instants are integers (ns since the
epoch); a heading parsed with a date-only layout is a UTC midnight.  Not modelled: `naturaldate`
free-text dates, DST transitions.  The day count behind the instants (`Date.toDays`) is proved to advance by
exactly one per calendar day (`day_count_advances`), so comparing instants is comparing calendar days and
`yesterday` is the previous calendar day; that the count agrees with Go's `time` package at its origin is
validated by the `date` correspondence.
-/
namespace Hrano.C06
open Hrano Hrano.App Hrano.Options

/-- The interval test is exactly `begin ≤ d ≤ end`, each bound optional, both ends inclusive. -/
theorem interval_exact (b e : Option Int) (t : Int) :
    inInterval b e t = true ↔ (∀ x, b = some x → x ≤ t) ∧ (∀ y, e = some y → t ≤ y) := by
  cases b <;> cases e <;> simp [inInterval] <;> omega

/-- an inverted period selects nothing -/
theorem inverted_is_empty (b e t : Int) (h : e < b) : inInterval (some b) (some e) t = false := by
  rw [← Bool.not_eq_true, inInterval_some]; omega

/-- **Selection = deletion.**  Walking a log with a period gives the same days and the same outcome as
    walking, with no period, the log from which the records outside the period were deleted — for
    every order of the days, repeated dates included.  Every period-aware report is a function of
    this walk, so its output is the same too. -/
theorem filter_eq_delete (l : Layout) (b e : Option Int) (se : Option ScanErr) (evs : List Event) :
    walk l b e se evs = walk l none none se (evs.filter (inPeriod l b e)) :=
  walk_filter l b e se evs

/-- a period given on the sub-command overrides the global one; without it the global one applies -/
theorem innermost_wins {α} (g : Option α) (v : α) : innermost g (some v) = some v ∧ innermost g (none : Option α) = g :=
  ⟨rfl, rfl⟩

/-- **each bound is settled on its own**: a begin given globally and an end given on the sub-command (or the reverse) are both
    in force — a bound is replaced only by the *same* bound on an inner level, never dropped because the other bound was given there -/
theorem mixed_levels_keep_both (s : Settings) (now : Int) (l : Layout) (x y : Bytes) (tx ty : Int)
    (hx : timeFromString now l x = .ok tx) (hy : timeFromString now l y = .ok ty) :
    (s.gBegin = some x → s.sBegin = none → s.gEnd = none → s.sEnd = some y → boundsOf s now l = .ok (some tx, some ty))
    ∧ (s.gBegin = none → s.sBegin = some x → s.gEnd = some y → s.sEnd = none → boundsOf s now l = .ok (some tx, some ty)) := by
  constructor <;> intro h1 h2 h3 h4 <;> simp [boundsOf, h1, h2, h3, h4, optBind, hx, hy, innermost, Except.map]

/-- the begin that is in force depends on the begin settings only, the end on the end settings only -/
theorem bounds_independent (s s' : Settings) (now : Int) (l : Layout) (b e b' e' : Option Int)
    (h : boundsOf s now l = .ok (b, e)) (h' : boundsOf s' now l = .ok (b', e')) :
    (s.gBegin = s'.gBegin → s.sBegin = s'.sBegin → b = b') ∧ (s.gEnd = s'.gEnd → s.sEnd = s'.sEnd → e = e') := by
  obtain ⟨gb, sb, ge, se, h1, h2, h3, h4, rfl, rfl⟩ := boundsOf_ok h
  obtain ⟨gb', sb', ge', se', h1', h2', h3', h4', rfl, rfl⟩ := boundsOf_ok h'
  constructor
  · intro e1 e2
    rw [e1] at h1; rw [e2] at h2
    cases h1.symm.trans h1'; cases h2.symm.trans h2'; rfl
  · intro e1 e2
    rw [e1] at h3; rw [e2] at h4
    cases h3.symm.trans h3'; cases h4.symm.trans h4'; rfl

/-- a period whose two bounds are the same date selects exactly the headings of that date (it is not "empty") -/
theorem single_day_period (l : Layout) (sb sd : Bytes) (b d : Civil)
    (hb : Date.parse l sb = some b) (hd : Date.parse l sd = some d) :
    inInterval (some (Date.instant b)) (some (Date.instant b)) (Date.instant d) = true ↔ d = b := by
  rw [← Date.instant_eq_iff d b (Date.parse_valid l sd d hd) (Date.parse_valid l sb b hb), inInterval_some]
  omega

/-- today / yesterday / last7 / last30 are resolved against the current date (`--today`) -/
theorem keywords (now : Int) (l : Layout) :
    timeFromString now l kwToday = .ok now
    ∧ timeFromString now l kwYesterday = .ok (now - Date.nsPerDay)
    ∧ timeFromString now l kwLast7 = .ok (now - 7 * Date.nsPerDay)
    ∧ timeFromString now l kwLast30 = .ok (now - 30 * Date.nsPerDay) :=
  ⟨rfl, rfl, rfl, rfl⟩

/-- **the day count advances by exactly one per calendar day** (month ends, leap days, century rules, year ends and
    the 400-year era included): instants of consecutive calendar days are exactly one day apart, so the order of the
    instants is the order of the calendar and no day is skipped or counted twice -/
theorem day_count_advances (c : Civil) (hm1 : 1 ≤ c.m) (hm2 : c.m ≤ 12) (hd1 : 1 ≤ c.d) (hd2 : c.d ≤ Date.daysIn c.m c.y) :
    Date.toDays (Date.next c) = Date.toDays c + 1 ∧ Date.instant (Date.next c) = Date.instant c + Date.nsPerDay
    ∧ (1 ≤ (Date.next c).m ∧ (Date.next c).m ≤ 12 ∧ 1 ≤ (Date.next c).d ∧ (Date.next c).d ≤ Date.daysIn (Date.next c).m (Date.next c).y) :=
  ⟨Date.toDays_next c ⟨hm1, hm2, hd1, hd2⟩, Date.instant_next c ⟨hm1, hm2, hd1, hd2⟩, Date.next_valid c ⟨hm1, hm2, hd1, hd2⟩⟩

/-- every heading (and every bound) the date reader accepts, in any layout, is a date of the calendar: month 1..12 and
    a day that exists in that month of that year -/
theorem parsed_date_is_calendar_day (l : Layout) (s : Bytes) (c : Civil) (h : Date.parse l s = some c) : Date.Valid c :=
  Date.parse_valid l s c h

/-- **comparing instants is comparing calendar dates**, for every pair of dates the reader accepts (not only
    neighbouring days): earlier instant ⇔ earlier in (year, month, day) order, same instant ⇔ same date -/
theorem instants_order_is_calendar_order (l l' : Layout) (s s' : Bytes) (a b : Civil)
    (ha : Date.parse l s = some a) (hb : Date.parse l' s' = some b) :
    (Date.instant a < Date.instant b ↔ Date.before a b) ∧ (Date.instant a = Date.instant b ↔ a = b) :=
  ⟨Date.instant_lt_iff a b (Date.parse_valid l s a ha) (Date.parse_valid l' s' b hb),
   Date.instant_eq_iff a b (Date.parse_valid l s a ha) (Date.parse_valid l' s' b hb)⟩

/-- … so a period given by two accepted dates selects a heading exactly when the heading's date is not before the
    first and not after the last date *of the calendar*, both ends included -/
theorem period_is_calendar_interval (l : Layout) (sb se sd : Bytes) (b e d : Civil)
    (hb : Date.parse l sb = some b) (he : Date.parse l se = some e) (hd : Date.parse l sd = some d) :
    inInterval (some (Date.instant b)) (some (Date.instant e)) (Date.instant d) = true ↔ ¬ Date.before d b ∧ ¬ Date.before e d := by
  have vb := Date.parse_valid l sb b hb
  have ve := Date.parse_valid l se e he
  have vd := Date.parse_valid l sd d hd
  rw [← Date.instant_lt_iff d b vd vb, ← Date.instant_lt_iff e d ve vd, inInterval_some, Int.not_lt, Int.not_lt]

/-- `yesterday` against the day after `c` is `c`: the keyword is the previous *calendar* day -/
theorem yesterday_is_previous_day (c : Civil) (l : Layout) (hm1 : 1 ≤ c.m) (hm2 : c.m ≤ 12) (hd1 : 1 ≤ c.d) (hd2 : c.d ≤ Date.daysIn c.m c.y) :
    timeFromString (Date.instant (Date.next c)) l kwYesterday = .ok (Date.instant c) := by
  rw [(keywords (Date.instant (Date.next c)) l).2.1, Date.instant_next c ⟨hm1, hm2, hd1, hd2⟩, Int.add_sub_cancel]

/-- **`summary today` selects exactly today's headings in every time zone.**  `n` is the day number of
    `--today` (a UTC midnight), `off` the zone offset in ns (|off| < 24h); the day is read off in
    that zone (`x`), the window is `[x 00:00, x 24:00)` in that zone; a log day `y` (a UTC midnight)
    lies in the window iff `y = n`. -/
theorem summary_selects_day (n y off x b : Int) (h1 : -Date.nsPerDay < off) (h2 : off < Date.nsPerDay)
    (hx : x = floorDiv (n * Date.nsPerDay + off) Date.nsPerDay) (hb : b = x * Date.nsPerDay - off) :
    inInterval (some b) (some (b + Date.nsPerDay - 1)) (y * Date.nsPerDay) = true ↔ y = n := by
  subst hb hx
  rw [inInterval_some]
  simp only [floorDiv, Date.nsPerDay] at *
  omega

/-- `summary DATE` (a date in the log's layout is a UTC midnight, read in UTC): exactly that day -/
theorem summary_date_selects_day (d y : Int) :
    inInterval (some (d * Date.nsPerDay)) (some (d * Date.nsPerDay + Date.nsPerDay - 1)) (y * Date.nsPerDay) = true ↔ y = d := by
  rw [inInterval_some]
  simp only [Date.nsPerDay]
  omega

/-- **the date of a day number is the date it was computed from**: the calendar conversion used for the `Today:` line of
    `stats` and for the day `summary` reports on inverts the day count, for every accepted date -/
theorem day_number_reads_back (c : Civil) (hc : Date.Valid c) :
    Date.ofDays (Date.toDays c) = c ∧ Date.ofDays (Date.instant c / Date.nsPerDay) = c := by
  rw [Date.instant_div]
  exact ⟨Date.ofDays_toDays c hc, Date.ofDays_toDays c hc⟩

/-- **`summary DATE` reports on exactly that calendar day**: the window the model's command loader installs for an
    accepted date `c` starts at `c`'s instant and is one day long, so a heading `d` lies in it iff `d` is the date `c` -/
theorem summary_date_is_that_day (l l' : Layout) (sc sd : Bytes) (c d : Civil)
    (hc : Date.parse l sc = some c) (hd : Date.parse l' sd = some d) :
    let w := summaryWindow (Date.ofDays (floorDiv (Date.instant c + 0) Date.nsPerDay)) 0
    w = (Date.instant c, Date.instant c + Date.nsPerDay - 1)
    ∧ (inInterval (some w.1) (some w.2) (Date.instant d) = true ↔ d = c) := by
  have vc := Date.parse_valid l sc c hc
  have vd := Date.parse_valid l' sd d hd
  have e : Date.ofDays (floorDiv (Date.instant c + 0) Date.nsPerDay) = c := by
    rw [Int.add_zero]; exact (day_number_reads_back c vc).2
  simp only [e, summaryWindow, Int.sub_zero]
  exact ⟨trivial, (summary_date_selects_day (Date.toDays c) (Date.toDays d)).trans
    ⟨Date.toDays_inj d c vd vc, fun h => by rw [h]⟩⟩

/-! non-vacuity: a boundary instant, a negative zone offset that moves an instant to the previous day, leap-year and
    year ends of `next`, and the origin of the day count -/
example : inInterval (some 5) (some 5) 5 = true := by decide
example : floorDiv (18652 * Date.nsPerDay + (-18000 * 1000000000)) Date.nsPerDay = 18651 := by decide
example : Date.next ⟨2000, 2, 29⟩ = ⟨2000, 3, 1⟩ ∧ Date.next ⟨1900, 2, 28⟩ = ⟨1900, 3, 1⟩ ∧ Date.next ⟨2021, 12, 31⟩ = ⟨2022, 1, 1⟩
    ∧ Date.toDays ⟨1970, 1, 1⟩ = 0 := by decide

end Hrano.C06
