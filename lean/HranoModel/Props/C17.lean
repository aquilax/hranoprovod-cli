import HranoModel.Lemmas.Sink
/-!
C17 — a report that cannot be written completely yields a non-zero exit.

Property theorems only.  Every reporter writes through a
`bufio.Writer` (or `csv.Writer`, which wraps one) and — after the fixes recorded in
known-findings.txt — returns the result of its final `Flush`; `lint` writes straight to the sink
and returns the first failed write.  The sink accepts `k` bytes in total and then fails every
write (full disk, closed pipe).  The theorems hold for *every* way of cutting the report into
`Write` calls and for every buffer size.

What the model cannot exhibit: SIGPIPE delivery, `ENOSPC` from the kernel (real-binary runs only).
-/
namespace Hrano.C17
open Hrano Hrano.BufW

/-- **Lost output fails.**  After any sequence of writes and the final Flush, the writer reports an
    error exactly when the sink could not take the whole report. -/
theorem lost_output_fails (size k : Nat) (chunks : List Bytes) :
    (runChunks size k chunks).err = true ↔ k < chunks.flatten.length := by
  rw [(runChunks_spec size k chunks).2, decide_eq_true_iff]

/-- what reaches the sink is always a prefix of the report: its first `k` bytes -/
theorem sink_holds_prefix (size k : Nat) (chunks : List Bytes) :
    (runChunks size k chunks).sink.got = chunks.flatten.take k := by
  rw [(runChunks_spec size k chunks).1]; rfl

/-- a sink that takes everything changes nothing: no error, the complete report arrives -/
theorem complete_output_unchanged (size k : Nat) (chunks : List Bytes) (h : chunks.flatten.length ≤ k) :
    (runChunks size k chunks).err = false ∧ (runChunks size k chunks).sink.got = chunks.flatten := by
  rw [sink_holds_prefix, (runChunks_spec size k chunks).2, List.take_of_length_le h]
  exact ⟨decide_eq_false (Nat.not_lt.mpr h), rfl⟩

/-- unbuffered writes (`lint`): the command fails iff some write fails, i.e. iff output is lost -/
theorem direct_writes_fail (k : Nat) (chunks : List Bytes) :
    (directWrites k chunks).2 = true ↔ k < chunks.flatten.length := by
  rw [directWrites_eq, decide_eq_true_iff]

/-! non-vacuity: a 10-byte report in three writes through a 4-byte buffer; a sink taking 9 bytes fails,
    one taking 10 succeeds -/
example : (runChunks 4 9 [[1, 2, 3], [4, 5, 6, 7, 8], [9, 10]]).err = true := by decide +kernel
example : (runChunks 4 10 [[1, 2, 3], [4, 5, 6, 7, 8], [9, 10]]).err = false := by decide +kernel
example : (runChunks 4 9 [[1, 2, 3], [4, 5, 6, 7, 8], [9, 10]]).sink.got = [1, 2, 3, 4, 5, 6, 7, 8, 9] := by decide +kernel

end Hrano.C17
