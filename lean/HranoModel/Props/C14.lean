import HranoModel.Lemmas.Template
import HranoModel.Lemmas.Fixed
import HranoModel.Lemmas.Walk
import HranoModel.Lemmas.PrintDoc
import HranoModel.Props.C04
import HranoModel.Model.Options
import HranoModel.Lemmas.Run
/-!
C14 — `print` emits a normal form that reads back to the same log.

Property theorems, and before the layout theorem what the regenerated `print` formats parse to (`parse_print`,
`print_precision`).  Helper lemmas: `Lemmas/Number.lean` — the number reader on what `%.2f` writes, `Lemmas/DateRT.lean` —
a date read back by its layout, `Lemmas/PrintDoc.lean` — the printed day as a well-formed record of `Spec/Doc.lean`, so
that the parser's part is C04's `parse_records`.  The main theorem is `print_reparse`: reading what `print` wrote gives
the same days, foods and notes, with the amounts as printed; `print_print` is the normal-form statement.
The well-formedness hypothesis `DayOK` is explicit: accepted date, legal and
distinct food names (which the walk guarantees: it merges repeated foods), amounts in float64's range, notes
the note reader maps to themselves (`# a: #` is the documented exception, see DESIGN.md observation 14), no
line longer than the scanner's buffer.
-/
namespace Hrano.C14
open Hrano Hrano.Report Hrano.Num

/-- what `print` writes for a day: the heading in the *same* layout the log is read with (fix recorded in
    known-findings.txt), the notes in their documented forms, one `  - name: quantity` line per distinct
    food, and a blank line -/
theorem print_day (cfg : RCfg) (d : LogDay) :
    renderPrint cfg d = Date.format cfg.dateLayout d.date ++ [58, 10]
      ++ (d.notes.map (fun m =>
            if !m.name.isEmpty then [32, 32, 35, 32] ++ m.name ++ [58, 32] ++ m.value ++ [10]
            else [32, 32, 35, 32] ++ m.value ++ [10])).flatten
      ++ (d.elements.map (fun e => [32, 32, 45, 32] ++ e.name ++ [58, 32] ++ fmtFixed Facts.printPrecision e.value ++ [10])).flatten
      ++ [10] := rfl

/-- the reporters print dates in the layout the options parse them with -/
theorem print_uses_parse_layout (s : Settings) (ld : Options.Loaded) (h : Options.load s = .ok ld) :
    ld.opts.rc.dateLayout = ld.opts.layout := by
  obtain ⟨layout, now, bnd, cmd, -, -, -, -, -, -, rfl⟩ := Options.load_ok h
  rfl

/-- print over a history is the concatenation of the days' blocks (no state between days) -/
theorem print_days (cfg : RCfg) (a b : List LogDay) :
    App.perDay (renderPrint cfg) (a ++ b) = App.perDay (renderPrint cfg) a ++ App.perDay (renderPrint cfg) b :=
  App.perDay_append _ a b

/-- **a printed quantity prints again as itself**: the exact value of the two-decimal text, printed with two
    decimals, is the same text (the case excluded is a negative value rounded to zero, where the program
    keeps the sign in a float's negative zero) -/
theorem printed_quantity_stable (q : Q) (h : q.num < 0 → roundedAt Facts.printPrecision q ≠ 0) :
    fmtFixed Facts.printPrecision (printedValue Facts.printPrecision q) = fmtFixed Facts.printPrecision q :=
  fmtFixed_stable _ q h

/-- printing rounds to the nearest two-decimal value (the `2` and `100` are `Facts.printPrecision` and its power of ten as they are now) -/
theorem printed_quantity_close (q : Q) :
    2 * (roundedAt 2 q * q.den) ≤ 2 * (q.num.natAbs * 100) + q.den
    ∧ 2 * (q.num.natAbs * 100) ≤ 2 * (roundedAt 2 q * q.den) + q.den :=
  roundHalfEven_close _ _ (Rat.den_pos q)

/-- the number reader accepts what `print` writes for a quantity, with exactly the printed value -/
theorem printed_quantity_reads_back (q : Q) (hq : roundedAt Facts.printPrecision q < 10 ^ (308 + Facts.printPrecision)) :
    parseFloat (fmtFixed Facts.printPrecision q) = .value (printedValue Facts.printPrecision q) :=
  parseFloat_fmtFixed _ q (by decide) (by decide) hq

/-- a date heading written in a layout is read back by the same layout -/
theorem printed_date_reads_back (l : Layout) (c : Civil) (hl : Date.roundTrips l = true) (hc : Date.CivilOK c) :
    Date.parse l (Date.format l c) = some c :=
  Date.parse_format l c hl hc

open PrintDoc in
/-- **Main theorem.**  Reading what `print` wrote (same date layout, no period) gives back the same days in the
    same order, each with the same foods in the same order and the same notes; the amounts are the printed ones
    (each within half a cent of the original, `printed_quantity_close`). -/
theorem print_reparse (cfg : RCfg) (days : List LogDay) (hl : Date.roundTrips cfg.dateLayout = true)
    (h : ∀ d ∈ days, DayOK cfg.dateLayout d) :
    App.walk cfg.dateLayout none none none (Parser.events PConst.commentChar (App.perDay (renderPrint cfg) days))
      = (days.map printedDay, none) := by
  have hlines : ∀ ln ∈ ((days.map (dayRecord cfg.dateLayout)).map (Doc.Record.lines cc)).flatten,
      Scanner.Clean ln ∧ ln.length < PConst.maxToken := by
    simp only [List.forall_mem_flatten, List.forall_mem_map]
    exact fun d hd ln hmem => ⟨dayRecord_clean (h d hd) ln hmem, (h d hd).fit ln hmem⟩
  have hnode : ∀ d ∈ days, (Doc.Record.node C04.cc ∘ dayRecord cfg.dateLayout) d
      = (⟨Date.format cfg.dateLayout d.date, (printedDay d).elements, d.notes⟩ : Node) :=
    fun d hd => dayRecord_node cfg.dateLayout d fun m hm => ((h d hd).notes m hm).stable
  rw [perDay_lines, Parser.events_of_lines _ _ hlines,
    C04.parse_records _ none 1 (List.forall_mem_map.2 fun d hd => dayRecord_wf (h d hd)), List.map_map, List.map_congr_left hnode,
    Option.toList, List.nil_append, List.map_map]
  exact walk_nodes cfg.dateLayout hl days h

open PrintDoc in
/-- **normal form**: printing what was read back from a printed log reproduces it byte for byte (amounts that a
    second rounding would change are excluded by `printed_quantity_stable`'s side condition) -/
theorem print_print (cfg : RCfg) (days : List LogDay)
    (hz : ∀ d ∈ days, ∀ e ∈ d.elements, e.value.num < 0 → roundedAt Facts.printPrecision e.value ≠ 0) :
    App.perDay (renderPrint cfg) (days.map printedDay) = App.perDay (renderPrint cfg) days := by
  rw [App.perDay, App.perDay, List.map_map]
  refine congrArg _ (List.map_congr_left fun d hd => ?_)
  -- the printed day differs in the amounts only, and each of them prints as before
  simp only [Function.comp_def, renderPrint, printedDay, List.map_map]
  rw [List.map_congr_left (l := d.elements) fun e he => by rw [fmtFixed_stable _ e.value (hz d hd e he)]]

/-- a note of one of the two documented forms, written with plain text: `# text` (no colon in the text) or
    `# name: value` (no colon in the name); "plain" = does not start with a space rune or `#`, does not end with a space
    rune, `#` or a byte the tokenizer trims (`:`, `"`, `-`), and holds no line feed -/
def NotePlain (m : MetaPair) : Prop :=
  (m.name = [] ∧ PrintDoc.WordOK m.value ∧ (∀ b ∈ m.value, b ≠ 58) ∧ (∀ b ∈ m.value, b ≠ 10))
  ∨ (PrintDoc.WordOK m.name ∧ PrintDoc.WordOK m.value ∧ (∀ b ∈ m.name, b ≠ 58) ∧ (∀ b ∈ m.name, b ≠ 10) ∧ (∀ b ∈ m.value, b ≠ 10))

/-- notes of the documented forms survive printing and reading -/
theorem documented_notes_read_back (m : MetaPair) (h : NotePlain m) : PrintDoc.NoteOK m := by
  obtain ⟨name, value⟩ := m
  rcases h with ⟨rfl, hw, hc, hlf⟩ | ⟨hwn, hwv, hc, hlfn, hlfv⟩
  · exact PrintDoc.note_text_ok value hw hc hlf
  · exact PrintDoc.note_named_ok name value hwn hwv hc hlfn hlfv

/-- the *syntactic* well-formedness of a day: everything `DayOK` asks for, stated on the data -/
structure DayPlain (l : Layout) (d : LogDay) : Prop where
  date : Date.CivilOK d.date
  names : ∀ e ∈ d.elements, Doc.NameOK PConst.commentChar e.name ∧ ∀ b ∈ e.name, b ≠ 10
  values : ∀ e ∈ d.elements, roundedAt Facts.printPrecision e.value < 10 ^ (308 + Facts.printPrecision)
  distinct : (Elements.names d.elements).Nodup
  notes : ∀ m ∈ d.notes, NotePlain m
  fit : ∀ ln ∈ Doc.Record.lines PConst.commentChar (PrintDoc.dayRecord l d), ln.length < PConst.maxToken

theorem dayOK_of_plain (l : Layout) (d : LogDay) (hl : PrintDoc.headingOK l = true) (h : DayPlain l d) : PrintDoc.DayOK l d :=
  { date := h.date
    heading := (PrintDoc.format_nameOK l d.date hl).1
    headingLF := (PrintDoc.format_nameOK l d.date hl).2
    names := h.names
    -- `P` is unfolded by name: left to the unifier, the bounds `10 ^ (308 + P)` and `10 ^ (308 + Facts.printPrecision)` are compared by evaluation
    values := by unfold PrintDoc.P; exact h.values
    distinct := h.distinct
    notes := fun m hm => documented_notes_read_back m (h.notes m hm)
    fit := h.fit }

/-- **Main theorem, on syntactic hypotheses.**  For every date layout that names year, month and day unambiguously and
    starts and ends with a number or a harmless separator, and for days with accepted dates, legal distinct food names,
    amounts in float64's range and notes of the documented forms, reading what `print` wrote gives the same days,
    foods and notes with the amounts as printed. -/
theorem print_reparse_plain (cfg : RCfg) (days : List LogDay) (hl : Date.roundTrips cfg.dateLayout = true)
    (hh : PrintDoc.headingOK cfg.dateLayout = true) (h : ∀ d ∈ days, DayPlain cfg.dateLayout d) :
    App.walk cfg.dateLayout none none none (Parser.events PConst.commentChar (App.perDay (renderPrint cfg) days))
      = (days.map PrintDoc.printedDay, none) :=
  print_reparse cfg days hl (fun d hd => dayOK_of_plain cfg.dateLayout d hh (h d hd))

/-! non-vacuity: the hypotheses of `print_reparse` are met by a day with a nested food name, a negative amount, a
    `name: value` note and a text note, in the default layout -/
def demoLayout : Layout := [.year4, .lit 47, .month2, .lit 47, .day2]
def demoDay : LogDay := ⟨⟨2021, 1, 24⟩, [⟨[97, 47, 98], (3 : Q) / 8⟩, ⟨[99], -2⟩], [⟨[110], [118]⟩, ⟨[], [116, 32, 120]⟩]⟩

open PrintDoc Doc in
example : Date.roundTrips demoLayout = true ∧ DayOK demoLayout demoDay := by
  have hh := format_nameOK demoLayout demoDay.date (by decide)
  refine ⟨by decide, ⟨⟨by decide, by decide, by decide, by decide, by decide⟩, hh.1, hh.2, ?_, ?_, ?_, ?_, ?_⟩⟩
  · intro e he
    simp only [demoDay, List.mem_cons, List.not_mem_nil, or_false] at he
    rcases he with rfl | rfl
    · exact ⟨⟨⟨97, [47, 98], rfl, by decide, by decide⟩, ⟨[97, 47], 98, rfl, by decide, by decide⟩⟩, by decide⟩
    · exact ⟨⟨⟨99, [], rfl, by decide, by decide⟩, ⟨[], 99, rfl, by decide, by decide⟩⟩, by decide⟩
  · decide +kernel
  · decide
  · intro m hm
    simp only [demoDay, List.mem_cons, List.not_mem_nil, or_false] at hm
    rcases hm with rfl | rfl
    · exact ⟨by decide +kernel, by decide, by decide⟩
    · exact ⟨by decide +kernel, by decide, by decide⟩
  · decide +kernel

/-- the two notes of the demo day are of the documented plain forms, and the default layout makes legal headings -/
example : NotePlain ⟨[110], [118]⟩ ∧ NotePlain ⟨[], [116, 32, 120]⟩ ∧ PrintDoc.headingOK demoLayout = true := by
  refine ⟨Or.inr ⟨⟨⟨110, [], rfl, by decide +kernel⟩, ⟨[], 110, rfl, by decide +kernel⟩⟩,
      ⟨⟨118, [], rfl, by decide +kernel⟩, ⟨[], 118, rfl, by decide +kernel⟩⟩, by decide, by decide, by decide⟩,
    Or.inl ⟨rfl, ⟨⟨116, [32, 120], rfl, by decide +kernel⟩, ⟨[116, 32], 120, rfl, by decide +kernel⟩⟩, by decide, by decide⟩,
    by decide⟩

open PrintDoc in
example : App.walk [.year4, .lit 47, .month2, .lit 47, .day2] none none none
    (Parser.events 35 (App.perDay (renderPrint { dateLayout := [.year4, .lit 47, .month2, .lit 47, .day2] })
      [⟨⟨2021, 1, 24⟩, [⟨[97, 47, 98], (3 : Q) / 8⟩, ⟨[99], -2⟩], [⟨[110], [118]⟩, ⟨[], [116, 32, 120]⟩]⟩]))
    = ([⟨⟨2021, 1, 24⟩, [⟨[97, 47, 98], (19 : Q) / 50⟩, ⟨[99], -2⟩], [⟨[110], [118]⟩, ⟨[], [116, 32, 120]⟩]⟩], none) := by
  decide +kernel
example : fmtFixed 2 ((3 : Q) / 8) = [48, 46, 51, 56] := by decide +kernel        -- 0.375 → 0.38
example : fmtFixed 2 (printedValue 2 ((3 : Q) / 8)) = [48, 46, 51, 56] := by decide +kernel

theorem parse_print : Facts.printFormats.map Tmpl.parseFmt =
    [[.str false 0, .lit 58, .lit 10],
     [.lit 32, .lit 32, .lit 35, .lit 32, .str false 0, .lit 58, .lit 32, .str false 0, .lit 10],
     [.lit 32, .lit 32, .lit 35, .lit 32, .str false 0, .lit 10],
     [.lit 32, .lit 32, .lit 45, .lit 32, .str false 0, .lit 58, .lit 32, .flt 0 2, .lit 10]] := by decide +kernel

theorem print_precision : Facts.printPrecision = 2 := by decide

/-- The text `print` writes for a day is the four formats of `print_reporter.go`, as the source has them now: heading, named note, plain note, element. -/
theorem print_layout_follows_source (cfg : RCfg) (d : LogDay) :
    renderPrint cfg d =
      Tmpl.sprintfA (Facts.printFormats.getD 0 []) [.s (Date.format cfg.dateLayout d.date)]
      ++ (d.notes.map (fun m =>
            if !m.name.isEmpty then Tmpl.sprintfA (Facts.printFormats.getD 1 []) [.s m.name, .s m.value]
            else Tmpl.sprintfA (Facts.printFormats.getD 2 []) [.s m.value])).flatten
      ++ (d.elements.map (fun e => Tmpl.sprintfA (Facts.printFormats.getD 3 []) [.s e.name, .q e.value])).flatten
      ++ [10] := by
  simp only [Tmpl.sprintfA, Tmpl.parse_getD, parse_print, List.getD_cons_zero, List.getD_cons_succ, Tmpl.render, Tmpl.padLeft_zero, Tmpl.fmtFixedW_zero,
    renderPrint, print_precision, List.cons_append, List.nil_append, List.append_assoc, Bool.false_eq_true, if_false]

example : Tmpl.sprintfA (Facts.printFormats.getD 3 []) [.s [97, 98], .q (7/4)] = Bytes.ofString "  - ab: 1.75\n" := by decide +kernel

end Hrano.C14
