import HranoModel.Lemmas.Accum
import HranoModel.Lemmas.Template
import HranoModel.Model.App
/-!
C02 — the register reports each day's foods, ingredients and signed totals exactly.

Property theorems, and before the layout theorems what the regenerated register formats parse to (`parse_reg*`, `totalsHead_*`, `shortenWidths_default`).
Quantities are exact rationals; the specification vocabulary (`sumOf`, `posOf`, `negOf`,
`distinctNames`, `dayContributions`) is in `Spec/Sums.lean`.
-/
namespace Hrano.C02
open Hrano Hrano.Spec Hrano.Report

/-- Within a day each distinct food appears once, in first-appearance order, with the sum of its
    logged quantities (`NewLogNodeFromElements`). -/
theorem day_foods (entries : Elements) :
    Elements.names (mergeDay entries) = distinctNames entries
    ∧ (Elements.names (mergeDay entries)).Nodup
    ∧ ∀ f, Elements.valueAt (mergeDay entries) f = sumOf f entries :=
  ⟨mergeDay_names entries, mergeDay_nodup entries, mergeDay_value entries⟩

/-- Each food is followed by its quantity times each resolved element of the food, or by the food
    itself when the book does not define it (`GetReportItem`). -/
theorem item_ingredients (db : Book) (cfg : RCfg) (d : LogDay) (h : cfg.totalsOnly = false) :
    (reportItem db cfg d).1 = d.elements.map (fun e =>
      { name := e.name, value := e.value,
        ingredients := match db.lookup e.name with
          | some els => els.map (fun r => ⟨r.name, r.value * e.value⟩)
          | none => [⟨e.name, e.value⟩] }) := by
  simp only [reportItem, h, contributions]
  rfl

/-- **The day's totals**: every contributed element exactly once, sorted by name, with the sum of its
    non-negative contributions, the sum of its negative contributions, and their sum. -/
theorem item_totals (db : Book) (cfg : RCfg) (d : LogDay) (h : cfg.totals = true) :
    ∃ ts, (reportItem db cfg d).2 = some ts
      ∧ (ts.map (·.name)).Pairwise (fun a b => Bytes.le a b = true)
      ∧ (ts.map (·.name)).Nodup
      ∧ (∀ n, n ∈ ts.map (·.name) ↔ n ∈ (dayContributions db d.elements).map (·.name))
      ∧ ∀ t ∈ ts, t.pos = posOf t.name (dayContributions db d.elements)
          ∧ t.neg = negOf t.name (dayContributions db d.elements)
          ∧ t.sum = t.pos + t.neg
          ∧ t.sum = sumOf t.name (dayContributions db d.elements) := by
  let a := accumulate [] (dayContributions db d.elements)
  have hp : (Accumulator.sorted a).Perm a := Srt.acc_sorted_eq a ▸ Srt.sortBy_perm _ a
  have hnames : (totalsOf a).map (·.name) = (Accumulator.sorted a).map (·.name) := by
    simp [totalsOf, Function.comp_def]
  refine ⟨totalsOf a, ?_, ?_, ?_, ?_, ?_⟩
  · simp only [reportItem, h, if_true, accumulate_contributions]
    rfl
  · rw [hnames, Srt.acc_sorted_eq]
    exact List.pairwise_map.mpr (Srt.sortBy_sorted _ _)
  · rw [hnames]
    exact (hp.map _).nodup_iff.mpr (nodup_accumulate [] _ List.nodup_nil)
  · intro n
    rw [hnames, (hp.map _).mem_iff]
    simpa [Accumulator.names] using mem_names_accumulate [] _ n
  · intro t ht
    obtain ⟨x, hx, rfl⟩ := List.mem_map.mp ht
    obtain ⟨hpos, hneg⟩ := mem_accumulate (hp.mem_iff.mp hx)
    exact ⟨hpos, hneg, rfl, by rw [← pos_add_neg, ← hpos, ← hneg]⟩

/-- The register shows every selected day, in file order: it is the concatenation of the per-day blocks. -/
theorem register_days (rc : RCfg) (db : Book) (days : List LogDay)
    (h1 : rc.singleElement = []) (h2 : rc.singleFood = []) (h3 : rc.oldReg = false) (h4 : rc.leftAligned = false) :
    App.regOutput rc db days = (days.map (fun d => renderDefault rc d db)).flatten := by
  simp [App.regOutput, App.perDay, h1, h2, h3, h4]

theorem parse_regDefault : Facts.regDefaultFormats.map Tmpl.parseFmt =
    [[.lit 9, .str true 27, .lit 32, .lit 58, .str false 0],
     [.lit 9, .lit 9, .str false 20, .lit 32, .str false 0],
     [.lit 9, .lit 9, .str false 20, .lit 32, .str false 0, .lit 32, .str false 0, .lit 32, .lit 61, .str false 0]] := by decide +kernel

theorem totalsHead_default : Facts.regDefaultTotalsHead = [9] ++ Bytes.ofString "-- TOTAL  " ++ dashes 52 := by decide +kernel

theorem shortenWidths_default : Facts.regDefaultShorten = [27, 20, 20] := by decide

theorem parse_regLeft : Facts.regLeftFormats.map Tmpl.parseFmt =
    [[.lit 32, .lit 32, .str false 0, .lit 32, .lit 32, .str false 0],
     [.lit 32, .lit 32, .str false 0, .lit 32, .lit 32, .lit 32, .lit 32, .str false 0],
     [.lit 32, .lit 32, .str false 0, .lit 32, .str false 0, .lit 32, .lit 61, .lit 32, .str false 0, .lit 32, .lit 32, .str false 0]] := by decide +kernel

theorem totalsHead_left : Facts.regLeftTotalsHead = dashes 55 ++ Bytes.ofString " TOTAL --" := by decide +kernel

theorem parse_regOld : Facts.regOldFormats.map Tmpl.parseFmt =
    [[.str false 0, .lit 10],
     [.lit 9, .str true 27, .lit 32, .lit 58, .str false 0, .lit 10],
     [.lit 9, .lit 9, .str false 20, .lit 32, .str false 0, .lit 10],
     [.lit 9, .lit 45, .lit 45, .lit 32, .str false 0, .lit 32, .str false 0, .lit 10],
     [.lit 9, .lit 9, .str false 20, .lit 32, .str false 0, .lit 32, .str false 0, .lit 32, .lit 61, .str false 0, .lit 10]] := by decide +kernel

theorem totalsHead_old : Bytes.ofString "-- TOTAL  " = [45, 45, 32] ++ Bytes.ofString "TOTAL " ++ [32] := by decide +kernel

/-- **The byte layout of the default rendering follows the template in the source.**  The hand-expanded rendering the model
    (and the driver of the correspondence check) uses is, for every configuration, day and book, the template
    `register.defaultTemplate` written over the `printf` formats, `shorten` widths and totals line that `tools/facts` reads from
    the source on every run, under the modelled `fmt.Sprintf`. -/
theorem default_layout_follows_template (cfg : RCfg) (d : LogDay) (db : Book) :
    renderDefault cfg d db = Tmpl.renderDefaultT cfg d db := by
  simp only [renderDefault, Tmpl.renderDefaultT, Tmpl.sprintf, Tmpl.parse_getD, parse_regDefault, totalsHead_default, shortenWidths_default,
    List.getD_cons_zero, List.getD_cons_succ, List.map, Tmpl.render, Tmpl.padLeft_zero, if_true, Bool.false_eq_true, if_false,
    List.append_assoc, List.cons_append, List.nil_append, List.append_nil]
  cases (reportItem db cfg d).snd <;> rfl

/-- the same for `register.leftAlignedTemplate` -/
theorem left_layout_follows_template (cfg : RCfg) (d : LogDay) (db : Book) :
    renderLeft cfg d db = Tmpl.renderLeftT cfg d db := by
  simp only [renderLeft, Tmpl.renderLeftT, Tmpl.sprintf, Tmpl.parse_getD, parse_regLeft, totalsHead_left,
    List.getD_cons_zero, List.getD_cons_succ, List.map, Tmpl.render, Tmpl.padLeft_zero, Bool.false_eq_true, if_false,
    List.append_assoc, List.cons_append, List.nil_append, List.append_nil]
  cases (reportItem db cfg d).snd <;> rfl

/-- the same for the old reporter (`reg_reporter.go`) and the formats of its five `fmt.Fprintf` calls -/
theorem old_layout_follows_source (cfg : RCfg) (d : LogDay) (db : Book) :
    renderOld cfg d db = Tmpl.renderOldT cfg d db := by
  simp only [renderOld, Tmpl.renderOldT, Tmpl.sprintf, Tmpl.parse_getD, parse_regOld, totalsHead_old,
    List.getD_cons_zero, List.getD_cons_succ, List.map, Tmpl.render, Tmpl.padLeft_zero, if_true, Bool.false_eq_true, if_false,
    List.append_assoc, List.cons_append, List.nil_append]

/-- every regenerated format uses only the verbs the model of `fmt.Sprintf` knows, with as many verbs as the row has arguments -/
theorem template_formats_well_formed :
    Tmpl.wellFormed (Facts.regDefaultFormats.getD 0 []) 2 = true ∧ Tmpl.wellFormed (Facts.regDefaultFormats.getD 1 []) 2 = true
    ∧ Tmpl.wellFormed (Facts.regDefaultFormats.getD 2 []) 4 = true
    ∧ Tmpl.wellFormed (Facts.regLeftFormats.getD 0 []) 2 = true ∧ Tmpl.wellFormed (Facts.regLeftFormats.getD 1 []) 2 = true
    ∧ Tmpl.wellFormed (Facts.regLeftFormats.getD 2 []) 4 = true
    ∧ Tmpl.wellFormed (Facts.regOldFormats.getD 0 []) 1 = true ∧ Tmpl.wellFormed (Facts.regOldFormats.getD 1 []) 2 = true
    ∧ Tmpl.wellFormed (Facts.regOldFormats.getD 2 []) 2 = true ∧ Tmpl.wellFormed (Facts.regOldFormats.getD 3 []) 2 = true
    ∧ Tmpl.wellFormed (Facts.regOldFormats.getD 4 []) 4 = true := by decide +kernel

/-! non-vacuity: a day with a repeated food, a negative quantity, a food the book defines and an element
    that is logged directly and also comes from a recipe -/
def demoBook : Book := [([115], [⟨[99], 40⟩, ⟨[102], -2⟩])]     -- s: c 40, f -2
def demoDay : LogDay := ⟨⟨2021, 1, 24⟩, mergeDay [⟨[115], 2⟩, ⟨[99], 5⟩, ⟨[115], -1⟩, ⟨[98], 0⟩], []⟩

example : Elements.names demoDay.elements = [[115], [99], [98]] := by decide
example : (reportItem demoBook {} demoDay).2.map (fun ts => ts.map (fun t => (t.name, t.pos, t.neg, t.sum)))
    = some [([98], 0, 0, 0), ([99], 45, 0, 45), ([102], 0, -2, -2)] := by decide +kernel

-- the regenerated food-row format on a name of two runes (a two-byte rune counts once for the padding) and a value
example : Tmpl.sprintf (Facts.regDefaultFormats.getD 0 []) [[0xC3, 0xA9, 120], [49]]
    = [9, 0xC3, 0xA9, 120] ++ List.replicate 25 32 ++ [32, 58, 49] := by decide +kernel
example : (Tmpl.renderDefaultT {} demoDay demoBook).length = (renderDefault {} demoDay demoBook).length
    ∧ (renderDefault {} demoDay demoBook).length > 300 := by decide +kernel

end Hrano.C02
