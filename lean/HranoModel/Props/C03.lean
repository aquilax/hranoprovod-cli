import HranoModel.Lemmas.Template
import HranoModel.Lemmas.Tree
import HranoModel.Lemmas.Collapse
import HranoModel.Lemmas.Chain
import HranoModel.Props.C07
/-!
C03 — the balance tree conserves logged quantities in every display mode.

Property theorems, and before the layout theorems what the regenerated balance formats parse to (`parse_balance`, `parse_balanceSingle`).  The tree is `Tree.build` (`AddDeep` for every
element processed; children kept sorted = `Keys()`), the printers are `printChildren` (plain and
`--collapse-last`) and `printCollapsedChildren` (`--collapse`, after the fix recorded in
known-findings.txt).  Vocabulary (`Spec/Balance.lean`): `totalAt` the amount at a category path,
`prefixSum` the sum of the logged quantities at or below a path, `preorderList` the rows in pre-order,
`chainNames / chainEnd` the chain of sole children a collapsed row joins.

Leaf preservation: `--collapse` and `--collapse-last` print exactly the plain rows of a transformed tree
(`collapseList`, `collapseLastList`: chains of sole children joined), and whenever every node with a single
child carries that child's amount (`chainOKList`) the transformed trees have the same leaf paths with the same amounts
(`display_modes_same_leaves`); `Tree.build` of a log in which no food name is a proper path-prefix of another
satisfies `chainOKList` (`Lemmas/Chain.lean`), which gives the property as stated: `collapse_preserves_leaves`.
-/
namespace Hrano.C03
open Hrano Hrano.Spec Hrano.Tree Hrano.Report

/-- the generated category separator is one byte (`"/"`) -/
theorem separator_is_one_byte : Facts.categorySeparator.length = 1 := by decide

/-- **Every category path carries the sum of the quantities logged at or below it**, and siblings are strictly
    sorted by name at every level (so each path occurs once). -/
theorem balance_amounts (es : Elements) :
    WFList (Tree.build es) ∧ ∀ q, totalAt (Tree.build es) q = prefixSum Tree.sep q es :=
  ⟨wf_build es, totalAt_build es⟩

/-- **The plain balance prints the tree in pre-order**: one row per node, parents before children, siblings in
    the tree's (sorted) order, each with its indent, label and amount. -/
theorem balance_rows (level : Nat) (cs : List Tree) :
    printChildren false level cs = ((preorderList level cs).map rowOf).flatten := by
  rw [printChildren_eq_map, preorderList_eq_map, flatten_map_flatten, List.map_map,
    List.map_congr_left fun c _ => print_is_preorder level c]
  rfl

/-- `--collapse` only joins path segments: the row of a chain of sole children is labelled with the `/`-join of
    the chain's names, carries the amount of the chain's head, and printing continues below the chain's end —
    no branch is dropped. -/
theorem collapse_only_joins (level : Nat) (c : Tree) :
    printCollapsedChild [] c.total level c
      = row c.total level (Bytes.join Tree.sep (chainNames c)) ++ printCollapsedChildren (level + 1) (chainEnd c).children := by
  simpa using collapsed_child [] c.total level c

/-- `--collapse-last` joins a node with its only child when that child is a leaf, and keeps the node's amount -/
theorem collapse_last_joins (level : Nat) (n gn : Bytes) (t gt : Q) :
    printChild true level (node n t [node gn gt []]) = row t level (n ++ Tree.sep :: gn) := by
  simp [printChild]

/-- the top-level amounts are the same in every display mode (what the C03/C15 checks observe as conservation) -/
theorem top_level_amounts_conserved (cs : List Tree) :
    (∀ c ∈ cs, ∃ rest, printChild false 0 c = row c.total 0 c.name ++ rest)
    ∧ (∀ c ∈ cs, ∃ label rest, printCollapsedChild [] c.total 0 c = row c.total 0 label ++ rest)
    ∧ (∀ c ∈ cs, ∃ label rest, printChild true 0 c = row c.total 0 label ++ rest) := by
  refine ⟨fun c _ => ?_, fun c _ => ⟨_, _, collapse_only_joins 0 c⟩, fun c _ => ?_⟩
  · cases c with
    | node n t ch => exact ⟨_, printChild_plain 0 n t ch⟩
  · cases c with
    | node n t ch =>
      by_cases h : ∃ gn gt, ch = [node gn gt []]
      · obtain ⟨gn, gt, rfl⟩ := h
        exact ⟨_, [], by rw [collapse_last_joins, List.append_nil]; rfl⟩
      · exact ⟨n, _, printChild_true_of_not_leaf h 0 n t⟩

/-- **`--collapse` prints the plain rows of the tree with its chains joined** -/
theorem collapse_is_plain_of_joined (level : Nat) (cs : List Tree) :
    printCollapsedChildren level cs = printChildren false level (collapseList cs) := by
  rw [printCollapsedChildren_eq_map, printChildren_eq_map, collapseList_eq_map, List.map_map]
  exact congrArg _ (List.map_congr_left fun c _ => by rw [collapsed_is_plain, relabel_collapse]; rfl)

/-- **`--collapse-last` prints the plain rows of the tree with its last links joined** -/
theorem collapse_last_is_plain_of_joined (level : Nat) (cs : List Tree) :
    printChildren true level cs = printChildren false level (collapseLastList cs) := by
  rw [printChildren_eq_map, printChildren_eq_map, collapseLastList_eq_map, List.map_map,
    List.map_congr_left fun c _ => collapseLast_is_plain level c]
  rfl

/-- **Every display mode shows the same leaf paths with the same amounts and drops no branch**: when every node
    with exactly one child carries that child's amount (no food was logged at the node itself), the trees whose
    plain rows `--collapse` and `--collapse-last` print have exactly the leaves of the original tree — full path
    (segments joined by the separator) and amount, in the same order. -/
theorem display_modes_same_leaves (cs : List Tree) (p : Bytes) (h : chainOKList cs = true) :
    leavesList p (collapseList cs) = leavesList p cs ∧ leavesList p (collapseLastList cs) = leavesList p cs := by
  rw [chainOKList_iff] at h
  rw [collapseList_eq_map, collapseLastList_eq_map, leavesList_eq_map, leavesList_eq_map, leavesList_eq_map, List.map_map, List.map_map]
  exact ⟨congrArg _ (List.map_congr_left fun c hc => collapse_leaves c p (h c hc)),
    congrArg _ (List.map_congr_left fun c hc => collapseLast_leaves c p (h c hc))⟩

/-- **Main theorem (collapse options only join path segments).**  For every log in which no food name is a proper
    path-prefix of another, the trees whose plain rows `--collapse` and `--collapse-last` print have exactly the leaf
    paths and amounts of the tree the plain balance prints — no branch is dropped, no amount changed. -/
theorem collapse_preserves_leaves (es : Elements) (p : Bytes) (hpf : PrefixFree (es.map pathOf)) :
    printCollapsedChildren 0 (Tree.build es) = printChildren false 0 (collapseList (Tree.build es))
    ∧ printChildren true 0 (Tree.build es) = printChildren false 0 (collapseLastList (Tree.build es))
    ∧ leavesList p (collapseList (Tree.build es)) = leavesList p (Tree.build es)
    ∧ leavesList p (collapseLastList (Tree.build es)) = leavesList p (Tree.build es) :=
  ⟨collapse_is_plain_of_joined 0 _, collapse_last_is_plain_of_joined 0 _, display_modes_same_leaves _ p (build_chainOK es hpf)⟩

/-- single-element mode: the tree is built from `quantity × the food's amount of the element` (a directly logged
    element counting as itself), and the grand total printed under the tree is the sum of those contributions —
    which is the period total of the element (C07) -/
theorem single_element_total (db : Book) (x : Bytes) (days : List LogDay) :
    (balanceSingleElements db x days).foldl (fun s e => s + e.value) 0
      = Accumulator.posAt (C12.totalsAcc db days) x + Accumulator.negAt (C12.totalsAcc db days) x :=
  C07.bal_single_total_eq_period_total db x days

/-! non-vacuity: a chain that forks at depth 2 plus a directly logged category -/
def demo : Elements := [⟨[97, 47, 98, 47, 99], 1⟩, ⟨[97, 47, 98, 47, 100], 2⟩, ⟨[120], 4⟩, ⟨[97, 47, 98, 47, 99], 8⟩]
example : totalAt (Tree.build demo) [[97], [98]] = 11 ∧ totalAt (Tree.build demo) [[97], [98], [99]] = 9
    ∧ totalAt (Tree.build demo) [[120]] = 4 := by decide +kernel
example : (preorderList 0 (Tree.build demo)).map (fun r => (r.1, r.2.1))
    = [(0, [97]), (1, [98]), (2, [99]), (2, [100]), (0, [120])] := by decide +kernel
example : chainNames (node [97] 11 [node [98] 11 [node [99] 9 [], node [100] 2 []]]) = [[97], [98]] := rfl
example : chainOKList (Tree.build demo) = true := by decide +kernel
example : leavesList [] (collapseList (Tree.build demo)) = [([97, 47, 98, 47, 99], 9), ([97, 47, 98, 47, 100], 2), ([120], 4)] := by decide +kernel
example : (preorderList 0 (collapseList (Tree.build demo))).map (fun r => (r.1, r.2.1))
    = [(0, [97, 47, 98]), (1, [99]), (1, [100]), (0, [120])] := by decide +kernel
example : PrefixFree (demo.map pathOf) := by decide +kernel
/-- the side condition is needed: with a food logged at a category that has a single child the collapsed row
    shows the category's amount, not the leaf's (the property excludes such logs) -/
example : chainOKList (Tree.build [⟨[97], 1⟩, ⟨[97, 47, 98], 2⟩]) = false := by decide +kernel

theorem parse_balance : ∀ i < 4, Tmpl.parseFmt (Facts.balanceFormats.getD i [])
    = [.flt 10 2, .lit 32, .lit 124, .lit 32, .str false 0, .str false 0, .lit 10] := by decide +kernel

theorem parse_balanceSingle : Facts.balanceSingleFormats.map Tmpl.parseFmt =
    [[.str false 0, .lit 124, .lit 10], [.flt 10 2, .lit 32, .lit 124, .lit 32, .str false 0, .lit 10]] := by decide +kernel

/-- Every row of the balance tree is `fmt.Fprintf` of the format the source has now — each of the three calls of `balance_reporter.go` and the one of `balance_reporter_collapsed.go` — applied to the total, the indentation and the label. -/
theorem balance_rows_follow_source (i : Nat) (h : i < 4) (t : Q) (level : Nat) (label : Bytes) :
    Tree.row t level label
      = Tmpl.sprintfA (Facts.balanceFormats.getD i []) [.q t, .s (List.replicate level [32, 32]).flatten, .s label] := by
  simp only [Tmpl.sprintfA, parse_balance i h, Tmpl.render, Tmpl.padLeft_zero]
  simp [Tree.row]

/-- `balance -s X`: the rule and the total row are the two formats of `balance_reporter_single.go`. -/
theorem balance_single_footer_follows_source (cfg : RCfg) (days : List LogDay) (db : Book) :
    renderBalanceSingle cfg days db =
      (let es := balanceSingleElements db cfg.singleElement days
       let t := Tree.build es
       (if cfg.collapse then Tree.printCollapsedChildren 0 t else Tree.printChildren cfg.collapseLast 0 t)
       ++ Tmpl.sprintfA (Facts.balanceSingleFormats.getD 0 []) [.s (Report.dashes 11)]
       ++ Tmpl.sprintfA (Facts.balanceSingleFormats.getD 1 []) [.q (es.foldl (fun s e => s + e.value) 0), .s cfg.singleElement]) := by
  simp only [Tmpl.sprintfA, Tmpl.parse_getD, parse_balanceSingle, List.getD_cons_zero, List.getD_cons_succ, Tmpl.render, Tmpl.padLeft_zero]
  simp [renderBalanceSingle]

example : Tmpl.signature (Facts.balanceFormats.getD 3 []) = some [true, false, false]
    ∧ Tmpl.signature (Facts.balanceSingleFormats.getD 1 []) = some [true, false] := by decide +kernel
example : Tmpl.sprintfA (Facts.balanceFormats.getD 1 []) [.q (-5/2), .s [32, 32], .s [97]]
    = Bytes.ofString "     -2.50 |   a\n" := by decide +kernel

end Hrano.C03
