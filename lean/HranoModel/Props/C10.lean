import HranoModel.Lemmas.Run
/-!
C10 — unreadable input is an error, never a silently shortened report.

Property theorems only.  A read fault is
a reader that serves the first `k ≤ |file|` bytes and then returns an error; an over-long line is
one of `bufio.MaxScanTokenSize` bytes or more.  The exact chunking of `bufio.Scanner` is modelled
only as "which lines are delivered" (validated at every offset by the correspondence check).
-/
namespace Hrano.C10
open Hrano Hrano.App

/-- a reader that fails at any offset inside (or at the end of) the file makes the scan fail -/
theorem read_fault_is_error (cc : UInt8) (s : Bytes) (k : Nat) (hk : k ≤ s.length) :
    (Parser.eventsFaulty cc s (some k)).2 ≠ none := fun h =>
  absurd (((Scanner.scan_ok_iff s (some k)).mp h).1 k rfl) (Nat.not_lt.mpr hk)

/-- a line of 64 KiB or more, at any position, makes the scan fail -/
theorem long_line_is_error (cc : UInt8) (s : Bytes) (l : Bytes) (hm : l ∈ Scanner.rawLines s)
    (hl : l.length ≥ PConst.maxToken) : (Parser.eventsFaulty cc s none).2 = some .tooLong := by
  have : (Scanner.takeFitting (Scanner.rawLines s)).2 = true := by
    rw [Scanner.takeFitting_flag]; exact List.any_eq_true.mpr ⟨l, hm, by simpa using hl⟩
  simp [Parser.eventsFaulty, Scanner.scan, Scanner.served, this]

/-- **Parser level.**  If `ParseStreamCallback` reports no scanner error, the reader did not fail inside the
    file, no line was over-long, and the callback saw exactly the events of the complete file. -/
theorem success_implies_complete (cc : UInt8) (s : Bytes) (fa : Option Nat) (h : (Parser.eventsFaulty cc s fa).2 = none) :
    (Parser.eventsFaulty cc s fa).1 = Parser.events cc s
    ∧ (∀ k, fa = some k → s.length < k)
    ∧ ∀ l ∈ Scanner.rawLines s, l.length < PConst.maxToken := by
  have hok := (Scanner.scan_ok_iff s fa).mp h
  refine ⟨?_, hok⟩
  rw [Parser.eventsFaulty_eq_of_ok cc s fa h, Parser.eventsFaulty, Parser.events, Scanner.scan_of_fit s hok.2]
  rfl

/-- **Command level.**  Whenever a command succeeds under read faults `rf`, its whole outcome — output
    and status — is that of the run without any fault: every heading and entry of every file it reads
    has been taken into account.  (Equivalently: a fault that costs any input makes the command fail.) -/
theorem command_success_implies_complete (c : Cmd) (o : Opts) (fs : Files) (rf : ReadFaults)
    (ord : List Bytes → List Bytes) (h : (run c o fs rf ord).err = none) :
    run c o fs rf ord = run c o fs [] ord := by
  cases c with
  | reg | bal | reportTotals | reportUnresolved | summary => exact withBookAndLog_ok h
  | reportQuantity | csvLog | print => exact withLog_ok h
  | reportElementTotal | csvDatabaseResolved => exact withBook_ok h
  | csvDatabase => exact parsed_then_ok (fun p hp => ⟨csvDatabaseOut_ok_se hp, rfl⟩) h
  | lint file silent => exact parsed_then_ok (fun p hp => ⟨lintOut_ok_se hp, rfl⟩) h
  | stats =>
    -- both files are parsed, the log first; each parse must be free of parse and scanner errors
    refine parsed_then_ok (fun pl hpl => ?_) h
    split at hpl
    · cases hpl
    · cases hpl
    · next hsl =>
      refine ⟨hsl, parsed_then_ok (fun pd hpd => ?_) hpl⟩
      split at hpd
      · cases hpd
      · cases hpd
      · next hsd => exact ⟨hsd, rfl⟩

/-! non-vacuity: a two-record file; the reader failing after the first record is an error, while the
    complete read succeeds with both records -/
def demo : Bytes := Bytes.ofString "a:\n  x: 1\nb:\n  y: 2\n"
example : (Parser.eventsFaulty 35 [97, 58, 10, 32, 32, 120, 58, 32, 49, 10, 98, 58, 10, 32, 32, 121, 58, 32, 50, 10] (some 10)).2 = some .read := by decide +kernel
example : ((Parser.eventsFaulty 35 [97, 58, 10, 32, 32, 120, 58, 32, 49, 10, 98, 58, 10, 32, 32, 121, 58, 32, 50, 10] none).1.length,
           (Parser.eventsFaulty 35 [97, 58, 10, 32, 32, 120, 58, 32, 49, 10, 98, 58, 10, 32, 32, 121, 58, 32, 50, 10] none).2) = (2, none) := by decide +kernel

end Hrano.C10
