import HranoModel.Model.Callback
import HranoModel.Model.Options
import HranoModel.Lemmas.Run
/-!
C08 — no input makes a command crash or hang.

Property theorems only.  What a proof about the model can say here:
* every function of the model is total (accepted by Lean's termination checker with the code's own
  argument: lines of the file, the fuel `maxDepth − level`, the path of a name, the children of a node),
  so `App.run` returns an outcome for every input — there is no theorem to state beyond its type;
* the recursion of the resolver is bounded by `maxDepth`, which `validateOptions` bounds (fix recorded in
  known-findings.txt);
* no parser callback touches the record when the parser delivered an error (the defect class found in
  `csv database` and `stats`), stated on the explicit `Delivery` model of the callback contract;
* the parser emits at most one event per line plus the final flush.
Partial by nature: real stack exhaustion, allocation failure and third-party code (`regexp`, `naturaldate`)
are outside the model; the C08 check fuzzes them.
-/
namespace Hrano.C08
open Hrano Hrano.Callback

/-- **No callback dereferences a nil record**: for every event the parser can deliver, every consumer either
    continues or stops with an error. -/
theorem callbacks_never_panic (layout : Layout) (ev : Event) :
    loadBook (deliver ev) ≠ .panic ∧ walk layout (deliver ev) ≠ .panic ∧ csvDatabase (deliver ev) ≠ .panic
    ∧ statsLog (deliver ev) ≠ .panic ∧ statsDb (deliver ev) ≠ .panic ∧ lint (deliver ev) ≠ .panic
    ∧ parseStream (deliver ev) ≠ .panic := by
  cases ev with
  | node n =>
    refine ⟨by simp [loadBook, deliver, useNode], ?_, by simp [csvDatabase, deliver, useNode], by simp [statsLog, deliver, useNode],
      by simp [statsDb, deliver], by simp [lint], by simp [parseStream, deliver, useNode]⟩
    simp only [walk, deliver, useNode]
    cases Date.parse layout n.header <;> simp
  | error e =>
    exact ⟨by simp [loadBook, deliver], by simp [walk, deliver], by simp [csvDatabase, deliver], by simp [statsLog, deliver],
      by simp [statsDb, deliver], by simp [lint], by simp [parseStream, deliver]⟩

/-- the parser always delivers exactly one of (record, error) -/
theorem delivery_exclusive (ev : Event) : ((deliver ev).node.isSome ∧ (deliver ev).err.isNone) ∨ ((deliver ev).node.isNone ∧ (deliver ev).err.isSome) := by
  cases ev
  · exact .inl ⟨rfl, rfl⟩
  · exact .inr ⟨rfl, rfl⟩

/-- the resolve depth a command runs with is bounded (recursion depth of the resolver = depth limit) -/
theorem depth_is_bounded (s : Settings) (ld : Options.Loaded) (h : Options.load s = .ok ld) :
    ld.opts.maxDepth ≤ Options.maxAllowedDepth := by
  obtain ⟨layout, now, bnd, cmd, -, -, -, -, hv, -, rfl⟩ := Options.load_ok h
  unfold Options.validate at hv
  split at hv
  · cases hv
  · next hd => exact Int.not_lt.mp hd

/-- the parser emits at most one event per line, plus the final flush -/
theorem parse_total (cc : UInt8) (fin : Bool) : ∀ (ls : List Bytes) (cur : Option Node) (ln : Nat),
    (Parser.parseLines cc fin cur ln ls).length ≤ ls.length + 1 := by
  intro ls cur ln
  have flush_le (cur : Option Node) : (Parser.flush cur).length ≤ 1 := by cases cur <;> simp [Parser.flush]
  -- every line adds at most one event: a heading flushes the record before it, a malformed entry is an error
  fun_induction Parser.parseLines cc fin cur ln ls
  case case1 cur _ _ => exact flush_le cur
  case case2 => exact Nat.zero_le _
  case case4 cur _ _ _ _ _ ih =>
    have := flush_le cur
    rw [List.length_append, List.length_cons]
    omega
  all_goals (simp only [List.length_cons]; omega)

end Hrano.C08
