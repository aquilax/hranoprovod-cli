import HranoModel.Lemmas.ResolveMain
/-!
C11 — the depth limit rejects cycles, accepts legitimate nesting, independent of order.

Property theorems, with `Reach` (a recipe reaches a name through references) and the chain lemmas `chain_le`,
`chain_shorter`, `chain_of_reach`.  `Chain B x k`: a chain of `k`
ingredient references starts at `x` (the last name of a chain need not be a recipe: the level test
precedes the existence test, so `a: b 1` with `N = 1` is a chain of one reference and is rejected).
The theorems are about the model of the code after the fix recorded in known-findings.txt.
-/
namespace Hrano.C11
open Hrano Hrano.Spec Hrano.Resolver

/-- **Exactness, for every visiting order.**  Resolution with limit `N` fails — with the depth error —
    exactly when a chain of `N` or more references starts at one of the visited names. -/
theorem depth_exact (B : Book) (N : Nat) (order : List Bytes) :
    resolveAll (N : Int) B order = .error .depth ↔ ∃ n ∈ order, Chain B n N := by
  have h := resolveAll_spec B N order
  rw [Int.toNat_natCast] at h
  -- otherwise every visited name resolves and the run succeeds
  refine ⟨fun herr => Classical.byContradiction fun hno => ?_, h.1⟩
  obtain ⟨B', hok, _⟩ := h.2 fun n hn hc => hno ⟨n, hn, hc⟩
  cases herr.symm.trans hok

/-- the outcome does not depend on the order in which the recipes are visited -/
theorem outcome_order_independent (B : Book) (N : Nat) (o₁ o₂ : List Bytes) (h : ∀ n, n ∈ o₁ ↔ n ∈ o₂) :
    (resolveAll (N : Int) B o₁ = .error .depth ↔ resolveAll (N : Int) B o₂ = .error .depth) := by
  simp only [depth_exact, h]

/-- there is no other failure: resolution either succeeds or reports the depth error (it always terminates:
    the functions are total, recursion depth is bounded by the fuel `N`) -/
theorem only_depth_error (B : Book) (N : Int) (order : List Bytes) (e : RErr) (_ : resolveAll N B order = .error e) :
    e = .depth := by
  cases e; rfl

theorem chain_le {B : Book} {x : Bytes} {k m : Nat} (hle : m ≤ k) (h : Chain B x k) : Chain B x m := by
  induction m generalizing k x with
  | zero => exact Chain.zero x
  | succ m ih =>
    cases h with
    | zero => cases hle
    | step _ els e k hl he hc => exact Chain.step x els e m hl he (ih (Nat.le_of_succ_le_succ hle) hc)

theorem chain_shorter (B : Book) : ∀ (k : Nat) (x : Bytes), Chain B x (k + 1) → Chain B x k :=
  fun k _ => chain_le (Nat.le_succ k)

/-- `Reach B a b k`: `b` is reached from `a` by `k` references through recipes -/
inductive Reach (B : Book) : Bytes → Bytes → Nat → Prop where
  | refl (a : Bytes) : Reach B a a 0
  | step (a : Bytes) (els : Elements) (e : Element) (b : Bytes) (k : Nat) :
      B.lookup a = some els → e ∈ els → Reach B e.name b k → Reach B a b (k + 1)

theorem chain_of_reach {B : Book} {a b : Bytes} {k m : Nat} (hr : Reach B a b k) (hc : Chain B b m) : Chain B a (k + m) := by
  induction hr with
  | refl a => rwa [Nat.zero_add]
  | step a els e b k hl he _ ih => rw [Nat.add_right_comm]; exact Chain.step a els e (k + m) hl he (ih hc)

/-- **Cyclic recipes are always rejected**: a recipe that reaches itself through one or more references has
    chains of every length, so every limit `N` rejects every order that visits it. -/
theorem cyclic_fails (B : Book) (N : Nat) (order : List Bytes) (x : Bytes) (k : Nat)
    (hcyc : Reach B x x (k + 1)) (hx : x ∈ order) : resolveAll (N : Int) B order = .error .depth := by
  -- once more round the cycle is a chain of more than `j` references
  have hall : ∀ j : Nat, Chain B x j := by
    intro j
    induction j with
    | zero => exact Chain.zero x
    | succ j ih => exact chain_le (by omega) (chain_of_reach hcyc ih)
  exact (depth_exact B N order).mpr ⟨x, hx, hall N⟩

/-- legitimate nesting is accepted: if every chain from a visited name is shorter than `N`, resolution succeeds -/
theorem shallow_succeeds (B : Book) (N : Nat) (order : List Bytes) (h : ∀ n ∈ order, ¬ Chain B n N) :
    ∃ B', resolveAll (N : Int) B order = .ok B' := by
  obtain ⟨B', hok, _⟩ := (resolveAll_spec B N order).2 (by rwa [Int.toNat_natCast])
  exact ⟨B', hok⟩

/-! non-vacuity: the chain a → b → c → leaf has 3 references; N = 3 rejects it in both orders, N = 4 accepts it
    in both orders (the unchanged code accepted it bottom-up with N = 3) -/
def chain3 : Book := [([97], [⟨[98], 1⟩]), ([98], [⟨[99], 1⟩]), ([99], [⟨[120], 1⟩])]
def outcome (n : Int) (order : List Bytes) : Bool := match resolveAll n chain3 order with | .ok _ => true | .error _ => false
example : outcome 3 [[97], [98], [99]] = false ∧ outcome 3 [[99], [98], [97]] = false := by decide +kernel
example : outcome 4 [[97], [98], [99]] = true ∧ outcome 4 [[99], [98], [97]] = true := by decide +kernel
example : Reach [([97], [⟨[98], 1⟩]), ([98], [⟨[97], 1⟩])] [97] [97] 2 :=
  Reach.step _ _ ⟨[98], 1⟩ _ 1 rfl List.mem_cons_self (Reach.step _ _ ⟨[97], 1⟩ _ 0 rfl List.mem_cons_self (Reach.refl _))

end Hrano.C11
