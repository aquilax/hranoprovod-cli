import HranoModel.Model.Options
import HranoModel.Lemmas.Accum
import HranoModel.Lemmas.Template
import HranoModel.Lemmas.Present
import HranoModel.Lemmas.Colour
/-!
C15 — presentation options never change the numbers.

Property theorems, and before `value_format_follows_source` what the regenerated value formats parse to (`parse_value`).  Proved: colour by sign and colour-stripping
at the level of every printed figure; default register = no-totals and totals-only interleaved; the three
templates and the old reporter draw their figures from the same report item / accumulator; the shape of a
shortened name; `--desc` shows a permutation of the same rows; flag position of `--no-color`.
Colour-stripping of a *whole* register day (`strip_colour_register`): removing the escape codes from the
coloured output of the default and the left-aligned template, with or without `--shorten`, totals,
totals-only, and of the old reporter and `summary` (`strip_colour_old_and_summary`), gives the plain output byte for byte — under the hypothesis that the date text and the names
shown hold no ESC byte themselves (with an ESC inside a name the statement is false by construction).
-/
namespace Hrano.C15
open Hrano Hrano.Report

/-- positive amounts red, negative green, zero uncoloured -/
theorem colour_by_sign (v : Q) :
    (v > 0 → fmtVal true v = red ++ Num.fmtFixedW 10 2 v ++ reset)
    ∧ (v < 0 → fmtVal true v = green ++ Num.fmtFixedW 10 2 v ++ reset)
    ∧ (v = 0 → fmtVal true v = Num.fmtFixedW 10 2 v)
    ∧ fmtVal false v = Num.fmtFixedW 10 2 v := by
  refine ⟨fun h => ?_, fun h => ?_, fun h => ?_, ?_⟩
  · simp [fmtVal, h]
  · simp [fmtVal, h, Rat.not_lt.mpr (Rat.le_of_lt h)]
  · simp [fmtVal, h, Rat.lt_irrefl]
  · simp [fmtVal]

/-- coloured output equals plain output once escape codes are removed — for every printed figure, wherever it
    stands in a line -/
theorem strip_colour_figure (v : Q) (rest : Bytes) :
    stripAnsi (fmtVal true v ++ rest) = fmtVal false v ++ stripAnsi rest :=
  strip_fmtVal v rest

/-- **coloured register output minus the escape codes is the plain register output**, for a whole day block of the
    default and of the left-aligned template, whatever the other presentation options are -/
theorem strip_colour_register (cfg : RCfg) (d : LogDay) (db : Book) (hdate : noEsc (Date.format cfg.dateLayout d.date))
    (hn : NamesPlain db d) :
    stripAnsi (renderDefault { cfg with color := true } d db) = renderDefault { cfg with color := false } d db
    ∧ stripAnsi (renderLeft { cfg with color := true } d db) = renderLeft { cfg with color := false } d db :=
  ⟨strip_renderDefault cfg d db hdate hn, strip_renderLeft cfg d db hdate hn⟩

/-- … and the same for a whole day of the old register reporter (`--use-old-reg-reporter`) and of `summary` -/
theorem strip_colour_old_and_summary (cfg : RCfg) (d : LogDay) (db : Book) (hdate : noEsc (Date.format cfg.dateLayout d.date))
    (hn : NamesPlain db d) :
    stripAnsi (renderOld { cfg with color := true } d db) = renderOld { cfg with color := false } d db
    ∧ stripAnsi (renderSummary { cfg with color := true } d db) = renderSummary { cfg with color := false } d db :=
  ⟨strip_renderOld cfg d db hdate hn, strip_renderSummary cfg d db hdate hn⟩

/-- text without ESC bytes is untouched by the stripping -/
theorem strip_plain (a rest : Bytes) (h : noEsc a) : stripAnsi (a ++ rest) = a ++ stripAnsi rest :=
  strip_noEsc_append a rest h

/-- **default register = no-totals and totals-only interleaved per day**: the three outputs share the date line
    `D`, the food block `E` and the totals block `T`:  `D E T ⏎`,  `D E ⏎`,  `D T ⏎` -/
theorem default_is_interleave (cfg : RCfg) (d : LogDay) (db : Book) :
    ∃ D E T : Bytes,
      renderDefault { cfg with totals := true, totalsOnly := false } d db = D ++ E ++ T ++ [10]
      ∧ renderDefault { cfg with totals := false, totalsOnly := false } d db = D ++ E ++ [10]
      ∧ renderDefault { cfg with totals := true, totalsOnly := true } d db = D ++ T ++ [10] :=
  -- the block that is switched off is rendered as `[]`
  ⟨_, _, _, rfl, congrArg (· ++ [10]) (List.append_nil _), congrArg (· ++ _ ++ [10]) (List.append_nil _)⟩

/-- the old reporter accumulates the same contributions as the templates' report item: same totals, same figures
    (the default and the left-aligned template both render `reportItem`; the old reporter re-implements the sums) -/
theorem old_reporter_same_totals (cfg : RCfg) (d : LogDay) (db : Book) (h : cfg.totals = true) :
    (reportItem db cfg d).2 = some (totalsOf (d.elements.foldl (fun a e => accumulate a (contributions db e)) []))
    ∧ (d.elements.foldl (fun a e => accumulate a (contributions db e)) [] : Accumulator)
        = accumulate [] (Spec.dayContributions db d.elements) :=
  ⟨by simp [reportItem, h], accumulate_contributions db d.elements⟩

/-- a name that fits its column is not changed by `--shorten` -/
theorem shorten_fits (t : Bytes) (max : Nat) (h : Bytes.runeCount t ≤ max) : shorten true t max = t := by
  rw [shorten, if_pos rfl]
  exact if_pos h

/-- **a shortened name keeps a prefix and a suffix of the original within the column width**: for `max ≥ 3` and a
    longer name, the result is the first `δ` runes, the ellipsis, and the last `max − 1 − δ` runes (each invalid
    byte shown as U+FFFD), `max` runes in all, with `δ = ⌈(max−1)/2⌉` for an even and `⌊(max−1)/2⌋` for an odd
    number of runes -/
theorem shorten_keeps_ends (t : Bytes) (max : Nat) (h3 : 3 ≤ max) (hlong : max < (Bytes.runes t).length) :
    ∃ pre mid suf δ, Bytes.runes t = pre ++ mid ++ suf
      ∧ δ = (if (Bytes.runes t).length % 2 == 0 then max / 2 else (max - 1) / 2)
      ∧ pre.length = δ ∧ suf.length = max - 1 - δ ∧ pre.length + 1 + suf.length = max
      ∧ shorten true t max = (pre.map reencode).flatten ++ [0xE2, 0x80, 0xA6] ++ (suf.map reencode).flatten := by
  have h1 : 1 ≤ max := Nat.le_trans (by decide) h3
  have hδ : (if (Bytes.runes t).length % 2 == 0 then max / 2 else (max - 1) / 2) ≤ max - 1 := by
    split
    · exact Nat.le_sub_one_of_lt (Nat.div_lt_self h1 (by decide))
    · exact Nat.div_le_self _ _
  obtain ⟨mid, h⟩ := ends_of_long (Bytes.runes t) max _ hδ h1 hlong
  refine ⟨_, mid, _, _, h.1, rfl, h.2.1, h.2.2.1, h.2.2.2, ?_⟩
  simp only [shorten, if_true, truncateMiddle, Nat.sub_add_cancel h1]
  rw [if_neg (Nat.not_le.mpr hlong), if_neg (Nat.not_lt.mpr h3)]

/-- `--desc` shows the same rows: both orders are permutations of the same list (how each is ordered is not stated) -/
theorem desc_same_rows (es : Elements) : (stableByValue true es).Perm (stableByValue false es) :=
  (stableByValue_perm true es).trans (stableByValue_perm false es).symm

/-- a presentation flag has the same effect on the sub-command as globally (`--no-color`) -/
theorem no_color_position_irrelevant (s : Settings) (l : Layout) :
    (Options.rcOf { s with gNoColor := true, sNoColor := false } l).color = false
    ∧ (Options.rcOf { s with gNoColor := false, sNoColor := true } l).color = false
    ∧ Options.rcOf { s with gNoColor := true, sNoColor := false } l = Options.rcOf { s with gNoColor := false, sNoColor := true } l := by
  simp [Options.rcOf]

/-! non-vacuity: colours of a positive, a negative and a zero value stripped; a name shortened in the middle -/
example : stripAnsi (fmtVal true 5 ++ [32] ++ fmtVal true (-5) ++ [32] ++ fmtVal true 0) = fmtVal false 5 ++ [32] ++ fmtVal false (-5) ++ [32] ++ fmtVal false 0 := by decide +kernel
example : shorten true [48, 49, 50, 51, 52, 53, 54, 55, 56, 57] 7 = [48, 49, 50, 0xE2, 0x80, 0xA6, 55, 56, 57] := rfl

theorem parse_value : Facts.valueFormats.map Tmpl.parseFmt =
    [[.lit 27, .lit 91, .lit 51, .lit 49, .lit 109, .flt 10 2, .lit 27, .lit 91, .lit 48, .lit 109],
     [.lit 27, .lit 91, .lit 51, .lit 50, .lit 109, .flt 10 2, .lit 27, .lit 91, .lit 48, .lit 109], [.flt 10 2]] := by decide +kernel

/-- `formatValue` is `fmt.Sprintf` of the format the source has now for the value's sign — `negativeFormat` (red) above zero,
    `positiveFormat` (green) below, the plain format at zero and whenever colour is off (formats regenerated by `tools/facts`,
    constants written as concatenations folded). -/
theorem value_format_follows_source (color : Bool) (v : Q) :
    fmtVal color v =
      if color then
        if v > 0 then Tmpl.sprintfA (Facts.valueFormats.getD 0 []) [.q v]
        else if v < 0 then Tmpl.sprintfA (Facts.valueFormats.getD 1 []) [.q v]
        else Tmpl.sprintfA (Facts.valueFormats.getD 2 []) [.q v]
      else Tmpl.sprintfA (Facts.valueFormats.getD 2 []) [.q v] := by
  simp only [Tmpl.sprintfA, Tmpl.parse_getD, parse_value, List.getD_cons_zero, List.getD_cons_succ, Tmpl.render]
  simp [fmtVal, red, green, reset, esc]

example : Tmpl.signature (Facts.valueFormats.getD 0 []) = some [true] ∧ Tmpl.signature (Facts.valueFormats.getD 1 []) = some [true]
    ∧ Tmpl.signature (Facts.valueFormats.getD 2 []) = some [true] := by decide +kernel

end Hrano.C15
