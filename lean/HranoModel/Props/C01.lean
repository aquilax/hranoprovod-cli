import HranoModel.Lemmas.ResolveMain
/-!
C01 — nested recipes resolve to the exact sum-of-products of their ingredients.

Property theorems (the general statements they are instances of are
`Resolver.resolveAll_spec`, `resolveAll_order`, `resolveAll_resolved` in `Lemmas/ResolveMain.lean`).  The model is `Resolver.resolveNode /
resolveAll` (`Model/Resolver.lean`, the code after the fix recorded in known-findings.txt: in-place
replacement plus recorded heights).  One model function serves both public Go entry points
(`Resolver.Resolve` delegates to `Resolve`); the correspondence check runs both.

Specification (`Spec/Resolve.lean`): `specNode B N x = some (height, paths)` where `paths` has one
`(leaf, product of the quantities along the path)` entry per ingredient path from `x` to a name the
book does not define, and `Resolved paths els` says `els` is sorted by name, has no duplicate, lists
exactly the leaves of the paths and gives each the sum over its paths.  `Chain B x k`: a chain of `k`
ingredient references starts at `x`.  Quantities are exact rationals.
-/
namespace Hrano.C01
open Hrano Hrano.Spec Hrano.Resolver

/-- **Resolve is correct.**  If no chain of `N` or more references starts at a visited name, then for
    every visiting order that covers the book, resolution succeeds, keeps the recipe names, and leaves
    under every recipe exactly the resolved form of its ingredient paths: one amount per reachable
    basic element (the sum over all paths of the products), sorted by name, without duplicates, and no
    recipe name left unexpanded. -/
theorem resolve_correct (B : Book) (N : Nat) (order : List Bytes)
    (hcover : ∀ n ∈ B.keys, n ∈ order)
    (hdepth : ∀ n ∈ order, ¬ Chain B n N) :
    ∃ B', resolveAll (N : Int) B order = .ok B' ∧ B'.keys = B.keys ∧
      ∀ n ∈ B.keys, ∃ h ps els, specNode B N n = some (h, ps) ∧ B'.lookup n = some els ∧ Resolved ps els
        ∧ ∀ p ∈ ps, B.lookup p.name = none := by
  have h := resolveAll_spec B N order
  rw [Int.toNat_natCast] at h
  obtain ⟨B', hok, hk, hall⟩ := h.2 hdepth
  refine ⟨B', hok, hk, fun n hn => ?_⟩
  obtain ⟨h, ps, els, hsp, hl, hres⟩ := hall n (hcover n hn) hn
  exact ⟨h, ps, els, hsp, hl, hres, specNode_leaves hsp⟩

/-- names the book does not define stand for themselves -/
theorem undefined_is_itself (B : Book) (f : Nat) (x : Bytes) (h : B.lookup x = none) :
    specNode B (f + 1) x = some (0, [⟨x, 1⟩]) :=
  specNode_undefined h f

/-- the paths of a recipe are the paths of its ingredients, each scaled by the ingredient's quantity
    (sum over paths of the product of the quantities along the path, in recursive form) -/
theorem paths_unfold (B : Book) (f : Nat) (x : Bytes) (els : Elements) (h : B.lookup x = some els) :
    specNode B (f + 1) x = specList (specNode B f) els (0, []) :=
  specNode_recipe h f

/-- two books with the same distinct keys and the same entry under every key are equal -/
theorem book_ext : ∀ (B₁ B₂ : Book), B₁.keys = B₂.keys → B₁.keys.Nodup → (∀ n ∈ B₁.keys, B₁.lookup n = B₂.lookup n) → B₁ = B₂ :=
  fun _ _ hk hnd h => Book.ext_of_lookup hk hnd h

/-- **Order independence.**  Any two visiting orders that cover the book give the same resolved book. -/
theorem resolve_order_irrelevant (B : Book) (N : Nat) (o₁ o₂ : List Bytes) (hnd : B.keys.Nodup)
    (h₁ : ∀ n ∈ B.keys, n ∈ o₁) (h₂ : ∀ n ∈ B.keys, n ∈ o₂)
    (d₁ : ∀ n ∈ o₁, ¬ Chain B n N) (d₂ : ∀ n ∈ o₂, ¬ Chain B n N) :
    resolveAll (N : Int) B o₁ = resolveAll (N : Int) B o₂ :=
  resolveAll_order B hnd N o₁ o₂ h₁ h₂ (by
    rw [Int.toNat_natCast]
    exact ⟨fun ⟨n, hn, hc⟩ => absurd hc (d₁ n hn), fun ⟨n, hn, hc⟩ => absurd hc (d₂ n hn)⟩)

/-- **Idempotence.**  Resolving an already resolved book changes nothing (with a depth limit of at least 2: a
    resolved recipe still refers to its basic elements, one level down). -/
theorem resolve_idempotent (B B' : Book) (N : Nat) (o₁ o₂ : List Bytes) (hN : 2 ≤ N) (hnd : B.keys.Nodup)
    (h₁ : ∀ n ∈ B.keys, n ∈ o₁) (h₂ : ∀ n ∈ B.keys, n ∈ o₂) (d₁ : ∀ n ∈ o₁, ¬ Chain B n N)
    (hres : resolveAll (N : Int) B o₁ = .ok B') :
    resolveAll (N : Int) B' o₂ = .ok B' := by
  obtain ⟨B₁, r₁, k₁, c₁⟩ := resolve_correct B N o₁ h₁ d₁
  cases r₁.symm.trans hres
  refine resolveAll_resolved B' (k₁ ▸ hnd) N hN o₂ (k₁ ▸ h₂) fun n els hl => ?_
  obtain ⟨_, ps, els', _, hl', hr, hleaf⟩ := c₁ n (k₁ ▸ (Book.lookup_isSome_iff B' n).mp (hl ▸ rfl))
  cases hl.symm.trans hl'
  refine ⟨⟨hr.sorted, hr.nodup, fun leaf => (Elements.sumOf_eq_valueAt_of_nodup els hr.nodup leaf).symm, fun _ => Iff.rfl⟩,
    fun e he => ?_⟩
  -- every entry of a resolved recipe is a leaf of a path, and leaves are names the book does not define
  obtain ⟨p, hp, hpe⟩ := List.mem_map.mp ((hr.names e.name).mp (List.mem_map_of_mem he))
  exact hpe ▸ (Book.lookup_none_iff_of_keys k₁.symm p.name).mp (hleaf p hp)

/-! non-vacuity: a three-level diamond with a repeated ingredient, a negative and a fractional coefficient
    and an empty recipe; two different visiting orders -/
def a : Bytes := [97]
def b : Bytes := [98]
def c : Bytes := [99]
def d : Bytes := [100]
def x : Bytes := [120]
def y : Bytes := [121]
def demo : Book :=
  [(a, [⟨b, 2⟩, ⟨c, -1⟩, ⟨b, (1 : Q) / 2⟩]), (b, [⟨d, 3⟩, ⟨x, 1⟩]), (c, [⟨d, 1⟩, ⟨y, 4⟩]), (d, [⟨x, 1⟩, ⟨y, 1⟩]), ([101], [])]

def lookupAfter (order : List Bytes) (n : Bytes) : Option Elements :=
  match resolveAll 10 demo order with
  | .ok r => r.lookup n
  | .error _ => none

example : lookupAfter [a, b, c, d, [101]] a = some [⟨x, 9⟩, ⟨y, (5 : Q) / 2⟩] := by decide +kernel
example : lookupAfter [[101], d, c, b, a] a = some [⟨x, 9⟩, ⟨y, (5 : Q) / 2⟩] := by decide +kernel
example : ∀ n ∈ [a, b, c, d, [101]], (specNode demo 10 n).isSome := by decide +kernel
example : (match resolveAll 10 demo [a, b, c, d, [101]] with
    | .ok r => (match resolveAll 10 r [[101], d, c, b, a] with
      | .ok r' => r' == r
      | .error _ => false)
    | .error _ => false) = true := by decide +kernel

end Hrano.C01
