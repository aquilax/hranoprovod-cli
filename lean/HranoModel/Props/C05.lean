import HranoModel.Lemmas.ResolveMain
import HranoModel.Lemmas.Run
import HranoModel.Lemmas.Accum
/-!
C05 — every report is a pure function of its inputs.

Property theorems, and that a loaded book has distinct recipe names (`set_keys_nodup`, `loadBook_nodup`).  In the
model every `range` over a Go map is either (a) the resolver's visiting
order, an explicit parameter `ord` of `App.run` — any function that returns the keys in some order — or
(b) a "collect the keys, sort them, then print" site, modelled by keeping the collection and sorting
it (`Accumulator.sorted`, `Elements.sort`, `Report.sortBook`, sorted tree children).  The theorems:
(a) the whole program's outcome does not depend on `ord`; (b) sorting after collecting in any order
gives the same list when names are distinct, so no such site can leak the collection order.

What the model cannot exhibit: Go's actual map randomisation (the implementation is sampled by
repeated in-process and cross-process runs).
-/
namespace Hrano.C05
open Hrano Hrano.Spec Hrano.Resolver Hrano.App

theorem set_keys_nodup (b : Book) (n : Bytes) (v : Elements) (h : b.keys.Nodup) : (b.set n v).keys.Nodup := by
  rw [Book.keys_set]
  exact Srt.nodup_append_new h n

/-- a book loaded from a file has distinct recipe names (a repeated heading replaces the earlier record) -/
theorem ofNodes_keys_nodup (ns : List Node) : (Book.ofNodes ns).keys.Nodup :=
  List.foldlRecOn ns _ (motive := fun b : Book => b.keys.Nodup) List.Pairwise.nil
    fun b hb n _ => set_keys_nodup b n.header n.elements hb

theorem loadBook_nodup {evs : List Event} {se : Option ScanErr} {b : Book} (h : loadBook evs se = .ok b) : b.keys.Nodup :=
  (loadBook_ok h).2 ▸ ofNodes_keys_nodup _

/-- the resolver's result (success with which book, or the depth error) is the same for any two visiting
    orders that visit exactly the recipes of the book -/
theorem resolve_any_order (B : Book) (hnd : B.keys.Nodup) (m : Int) (o₁ o₂ : List Bytes)
    (h₁ : ∀ n, n ∈ o₁ ↔ n ∈ B.keys) (h₂ : ∀ n, n ∈ o₂ ↔ n ∈ B.keys) :
    resolveAll m B o₁ = resolveAll m B o₂ :=
  Resolver.resolveAll_order B hnd m o₁ o₂ (fun n => (h₁ n).mpr) (fun n => (h₂ n).mpr) (by simp only [h₁, h₂])

/-- **The whole program does not depend on the map visiting order**: for any two order functions that return
    exactly the keys they are given (in any order, with any repetition), every command gives the same
    output bytes and the same success or failure. -/
theorem run_order_independent (c : Cmd) (o : Opts) (fs : Files) (rf : ReadFaults) (ord₁ ord₂ : List Bytes → List Bytes)
    (h₁ : ∀ ks n, n ∈ ord₁ ks ↔ n ∈ ks) (h₂ : ∀ ks n, n ∈ ord₂ ks ↔ n ∈ ks) :
    run c o fs rf ord₁ = run c o fs rf ord₂ := by
  -- the order enters only where the loaded book is resolved
  refine run_congr_order (fun m p => ?_) c o fs rf
  unfold bookOf
  split
  · rfl
  · next book hl => rw [resolve_any_order book (loadBook_nodup hl) m _ _ (h₁ _) (h₂ _)]

/-- **Collect-then-sort sites**: whatever order a map yields its entries in, the sorted list that is printed is
    the same, because the names are distinct.  (Instances: register and period totals, by-food rows,
    resolved CSV, unresolved names, quantity and element-total rows before the stable sort by value.) -/
theorem sorted_totals_order_irrelevant (acc acc' : Accumulator) (hp : acc.Perm acc') (hnd : (Accumulator.names acc).Nodup) :
    Accumulator.sorted acc = Accumulator.sorted acc' := by
  rw [Srt.acc_sorted_eq, Srt.acc_sorted_eq]
  exact Srt.sortBy_perm_eq _ _ _ hp fun _ ha _ hb => Srt.inj_of_nodup_map hnd ha hb

theorem sorted_elements_order_irrelevant (es es' : Elements) (hp : es.Perm es') (hnd : (Elements.names es).Nodup) :
    Elements.sort es = Elements.sort es' := by
  rw [Srt.elements_sort_eq, Srt.elements_sort_eq]
  exact Srt.sortBy_perm_eq _ _ _ hp fun _ ha _ hb => Srt.inj_of_nodup_map hnd ha hb

end Hrano.C05
