import HranoModel.Lemmas.Template
import HranoModel.Props.C12
import HranoModel.Lemmas.Chain
/-!
C07 — all reports agree on the same quantities.

Property theorems; `sumOver_of_additive` about this file's `sumOver`; before the layout theorems what the regenerated totals / quantity / stats formats parse to.  Each theorem relates two *different* functions of the model (two reporters) on
the same book and days; the shared vocabulary is `Spec.posOf / negOf / sumOf` over the contributions
(`quantity × resolved element, or the food itself`).  Figures are exact rationals here; the C07 check
evaluates the same relations between the real program's outputs.
`quantity_eq_balance_leaf`: under the no-prefix condition the balance tree holds at a food's path exactly the
quantity listed for the food.  `stats_days_ago` is about the model's integer quotient; that Go's `Hours()/24` in float64
equals it is still checked only by the correspondence.
-/
namespace Hrano.C07
open Hrano Hrano.App Hrano.Spec Hrano.Report Hrano.C12

/-- the accumulator behind one day's register totals -/
def dayAcc (db : Book) (d : LogDay) : Accumulator :=
  d.elements.foldl (fun a e => accumulate a (contributions db e)) []

theorem dayAcc_is_register (db : Book) (cfg : RCfg) (d : LogDay) (h : cfg.totals = true) :
    (reportItem db cfg d).2 = some (totalsOf (dayAcc db d)) := by
  simp [reportItem, h, dayAcc]

def sumOver (f : LogDay → Q) : List LogDay → Q
  | [] => 0
  | d :: ds => f d + sumOver f ds

theorem sumOver_of_additive (F : List LogDay → Q) (h0 : F [] = 0) (hadd : ∀ a b, F (a ++ b) = F a + F b) (days : List LogDay) :
    F days = sumOver (fun d => F [d]) days := by
  induction days with
  | nil => exact h0
  | cons d ds ih => rw [sumOver, ← ih, ← hadd]; rfl

/-- **period totals = sum of the register's daily totals**, for every element and both registers -/
theorem totals_eq_sum_daily (db : Book) (days : List LogDay) (n : Bytes) :
    Accumulator.posAt (totalsAcc db days) n = sumOver (fun d => Accumulator.posAt (dayAcc db d) n) days
    ∧ Accumulator.negAt (totalsAcc db days) n = sumOver (fun d => Accumulator.negAt (dayAcc db d) n) days := by
  have hd : ∀ d, dayAcc db d = totalsAcc db [d] := fun d => by simp [totalsAcc, dayAcc, allElements]
  simp only [hd]
  exact ⟨sumOver_of_additive (fun ds => Accumulator.posAt (totalsAcc db ds) n) rfl (fun a b => (totals_additive db a b n).1) days,
    sumOver_of_additive (fun ds => Accumulator.negAt (totalsAcc db ds) n) rfl (fun a b => (totals_additive db a b n).2) days⟩

/-- **the single-element register row of a day shows that day's register totals for the element** -/
theorem single_row_eq_day_totals (db : Book) (x : Bytes) (d : LogDay) :
    Accumulator.posAt (accumulate [] (singleContribs db x d)) x = Accumulator.posAt (dayAcc db d) x
    ∧ Accumulator.negAt (accumulate [] (singleContribs db x d)) x = Accumulator.negAt (dayAcc db d) x := by
  rw [dayAcc, accumulate_contributions, singleContribs_eq]
  simp only [posAt_accumulate_nil, negAt_accumulate_nil, posOf_filter, negOf_filter, and_self]

/-- **the single-element balance grand total is the period total of that element** (positive plus negative
    register of `report totals`), a directly logged element counting as itself -/
theorem bal_single_total_eq_period_total (db : Book) (x : Bytes) (days : List LogDay) :
    (balanceSingleElements db x days).foldl (fun s e => s + e.value) 0
      = Accumulator.posAt (totalsAcc db days) x + Accumulator.negAt (totalsAcc db days) x := by
  rw [totalsAcc_eq, posAt_accumulate_nil, negAt_accumulate_nil, pos_add_neg, ← List.foldl_map, ← List.sum_eq_foldl]
  simp only [balanceSingleElements, periodContributions, dayContributions]
  induction allElements days with
  | nil => rfl
  | cons e es ih =>
    simp only [List.map_cons, List.flatten_cons, List.map_append, List.sum_append, sumOf_append, ih, sum_balanceSingleOf]

/-- **quantities per food = the balance leaf amounts**: when no logged food name is a path-prefix of another, the
    amount the balance tree holds at the path of a food is the quantity `report quantity` lists for it -/
theorem quantity_eq_balance_leaf (days : List LogDay) (e : Element) (he : e ∈ allElements days)
    (hpf : PrefixFree ((allElements days).map pathOf)) :
    totalAt (Tree.build (allElements days)) (pathOf e) = Elements.valueAt (quantityAcc days) e.name := by
  rw [totalAt_build, prefixSum_eq_sumOf (allElements days) hpf e he _ (fun x h => h), quantityAcc_value]

/-- **quantities per food = sums of the CSV log rows** (the CSV log lists each day's merged foods) -/
theorem quantity_eq_sum_csv_rows (days : List LogDay) (n : Bytes) :
    Elements.valueAt (quantityAcc days) n = sumOver (fun d => sumOf n d.elements) days := by
  have h := sumOver_of_additive (fun ds => sumOf n (allElements ds)) rfl
    (fun a b => by rw [allElements_append, sumOf_append]) days
  rw [quantityAcc_value, h]
  simp [allElements]

/-- summary and register render the same report item of the day (same foods, same totals) -/
theorem summary_eq_register_day (db : Book) (cfg : RCfg) (d : LogDay) :
    ∃ item, reportItem db cfg d = item
      ∧ renderSummary cfg d db = (Date.format cfg.dateLayout d.date ++ [32, 58]
          ++ (match item.2 with
              | none => []
              | some ts => (ts.map (fun t => [10] ++ fmtVal cfg.color t.pos ++ [32, 58, 32] ++ t.name)).flatten)
          ++ [10] ++ dashes 12
          ++ (item.1.map (fun el => [10] ++ fmtVal cfg.color el.value ++ [32, 58, 32] ++ el.name)).flatten
          ++ [10]) :=
  ⟨_, rfl, rfl⟩

/-- **the unresolved list is exactly the logged foods the book does not define**, each once -/
theorem unresolved_eq_logged_minus_book (db : Book) (es : Elements) :
    (∀ n, n ∈ Elements.names (unresolvedNames db es) ↔ (n ∈ Elements.names es ∧ db.lookup n = none))
    ∧ (Elements.names (unresolvedNames db es)).Nodup := by
  rw [unresolvedNames_eq]
  refine ⟨fun n => ?_, Elements.nodup_foldl_addTo _ _ _ List.nodup_nil⟩
  rw [Elements.mem_names_foldl_addTo]
  simp only [Elements.names, List.map_nil, List.not_mem_nil, false_or, List.mem_map, List.mem_filter, Option.isNone_iff_eq_none]
  constructor
  · rintro ⟨e, ⟨he, hu⟩, rfl⟩
    exact ⟨⟨e, he, rfl⟩, hu⟩
  · rintro ⟨⟨e, he, rfl⟩, hu⟩
    exact ⟨e, ⟨he, hu⟩, rfl⟩

/-- stats counts one record per heading -/
theorem stats_counts_headings (evs : List Event) :
    countNodes evs = (evs.filter (fun ev => match ev with | .node _ => true | _ => false)).length := rfl

/-- **the `(N days ago)` figure of `stats` is the distance in calendar days** between the configured current date and the
    record, for every pair of dates less than 106751 days (the range of a Go `Duration`) apart -/
theorem stats_days_ago (today c : Civil) (h1 : Date.toDays today - Date.toDays c ≤ 106751) (h2 : -106751 ≤ Date.toDays today - Date.toDays c) :
    daysAgo (Date.instant today) (some c) = Date.toDays today - Date.toDays c := by
  unfold daysAgo Date.instant
  dsimp only
  rw [← Int.sub_mul]
  generalize Date.toDays today - Date.toDays c = d at *
  -- within the range of a `Duration`: nothing is clamped
  have hK : Date.nsPerDay = 86400000000000 := rfl
  rw [if_neg (by rw [hK, maxDuration]; omega), if_neg (by rw [hK, maxDuration]; omega)]
  exact Int.mul_tdiv_cancel _ (by decide)

example : daysAgo (Date.instant ⟨2021, 5, 6⟩) (some ⟨2020, 3, 1⟩) = 431 := by decide +kernel

/-- **the CSV form of the single-element register carries the figures of the text form**: for every day both forms are
    empty together, and otherwise both are built from the same three amounts (positive part, minus the negative part, and their
    signed sum), printed with two decimals — the text form only pads them to ten columns -/
theorem single_csv_same_figures (cfg : RCfg) (d : LogDay) (db : Book) :
    (renderSingle { cfg with csv := true } d db = [] ∧ renderSingle { cfg with csv := false } d db = [])
    ∨ ∃ p n : Q,
        renderSingle { cfg with csv := true } d db
          = Date.format cfg.dateLayout d.date ++ [59, 34] ++ cfg.singleElement ++ [34, 59] ++ Num.fmtFixed 2 p ++ [59] ++ Num.fmtFixed 2 (-n)
            ++ [59] ++ Num.fmtFixed 2 (p + n) ++ [10]
        ∧ renderSingle { cfg with csv := false } d db
          = Date.format cfg.dateLayout d.date ++ [32] ++ Bytes.padLeft 32 20 cfg.singleElement ++ [32] ++ Bytes.padLeft 32 10 (Num.fmtFixed 2 p) ++ [32]
            ++ Bytes.padLeft 32 10 (Num.fmtFixed 2 (-n)) ++ [32, 61] ++ Bytes.padLeft 32 10 (Num.fmtFixed 2 (p + n)) ++ [10] := by
  unfold renderSingle
  cases accumulate [] (singleContribs db cfg.singleElement d) with
  | nil => exact .inl ⟨rfl, rfl⟩
  | cons a rest => exact .inr ⟨a.pos, a.neg, rfl, rfl⟩

theorem parse_total : Facts.totalFormats.map Tmpl.parseFmt =
    [[.str false 12, .lit 32, .lit 32, .str false 12, .lit 32, .lit 32, .str false 12, .lit 32, .lit 32, .str false 0, .lit 10],
     [.flt 12 2, .lit 32, .lit 32, .flt 12 2, .lit 32, .lit 32, .flt 12 2, .lit 32, .lit 32, .str false 0, .lit 10]] := by decide +kernel

theorem parse_quantity : Facts.quantityFormats.map Tmpl.parseFmt =
    [[.flt 0 2, .lit 9, .str false 0, .lit 10], [.flt 0 2, .lit 9, .str false 0, .lit 10]] := by decide +kernel

section
open Tmpl.Piece  -- `.lit`, `.str` … under `map` and `++` are resolved only after several rounds of elaboration in a table of this size

/-- the literal runs are kept as the texts the model writes, so that `Tmpl.render_lits` passes them through -/
theorem parse_stats : Facts.statsFormats.map Tmpl.parseFmt =
    [(Bytes.ofString "  Database file:      ").map lit ++ [str false 0, lit 10],
     (Bytes.ofString "  Database records:   ").map lit ++ [int, lit 10],
     (Bytes.ofString "  Log file:           ").map lit ++ [str false 0, lit 10],
     (Bytes.ofString "  Log records:        ").map lit ++ [int, lit 10],
     (Bytes.ofString "  Today:              ").map lit ++ [str false 0, lit 10],
     (Bytes.ofString "  First record:       ").map lit ++ (str false 0 :: ((Bytes.ofString " (").map lit ++ (int :: ((Bytes.ofString " days ago)").map lit ++ [lit 10])))),
     (Bytes.ofString "  Last record:        ").map lit ++ (str false 0 :: ((Bytes.ofString " (").map lit ++ (int :: ((Bytes.ofString " days ago)").map lit ++ [lit 10]))))] := by
  decide +kernel

end

/-- `report totals` is the header format and the row format of `total_reporter.go`, as the source has them now, over the sorted accumulator. -/
theorem totals_layout_follows_source (days : List LogDay) (db : Book) :
    renderTotals days db =
      (let acc := (allElements days).foldl (fun a e => accumulate a (contributions db e)) ([] : Accumulator)
       if acc.isEmpty then [] else
         Tmpl.sprintfA (Facts.totalFormats.getD 0 []) [.s (Bytes.ofString "positive"), .s (Bytes.ofString "negative"), .s (Bytes.ofString "sum"), .s (Bytes.ofString "element")]
         ++ (acc.sorted.map (fun a => Tmpl.sprintfA (Facts.totalFormats.getD 1 []) [.q a.pos, .q a.neg, .q (a.pos + a.neg), .s a.name])).flatten) := by
  simp only [Tmpl.sprintfA, Tmpl.parse_getD, parse_total, List.getD_cons_zero, List.getD_cons_succ, Tmpl.render]
  simp [renderTotals]

/-- `report quantity` and `report element-total` print each row with the format of `quantity_reporter.go` / `element_reporter.go`. -/
theorem value_rows_follow_source (es : Elements) :
    valueRows es = (es.map (fun e => Tmpl.sprintfA (Facts.quantityFormats.getD 0 []) [.q e.value, .s e.name])).flatten
    ∧ valueRows es = (es.map (fun e => Tmpl.sprintfA (Facts.quantityFormats.getD 1 []) [.q e.value, .s e.name])).flatten := by
  simp only [Tmpl.sprintfA, Tmpl.parse_getD, parse_quantity, List.getD_cons_zero, List.getD_cons_succ, Tmpl.render]
  simp [valueRows]

/-- `stats` prints the seven `fmt.Fprintf` formats of `stats_reporter.go`, as the source has them now, over the file names, the
    record counts, today, and the first / last heading date with its distance in days. -/
theorem stats_layout_follows_source (o : Opts) (nDb nLog : Nat) (first last : Option Civil) :
    App.statsOutput o nDb nLog first last =
      Tmpl.sprintfA (Facts.statsFormats.getD 0 []) [.s o.dbFile]
      ++ Tmpl.sprintfA (Facts.statsFormats.getD 1 []) [.i (Int.ofNat nDb)]
      ++ [10]
      ++ Tmpl.sprintfA (Facts.statsFormats.getD 2 []) [.s o.logFile]
      ++ Tmpl.sprintfA (Facts.statsFormats.getD 3 []) [.i (Int.ofNat nLog)]
      ++ Tmpl.sprintfA (Facts.statsFormats.getD 4 []) [.s (Date.format o.rc.dateLayout (Date.ofDays (o.now / Date.nsPerDay)))]
      ++ Tmpl.sprintfA (Facts.statsFormats.getD 5 []) [.s (App.fmtDateOpt o.rc.dateLayout first), .i (App.daysAgo o.now first)]
      ++ Tmpl.sprintfA (Facts.statsFormats.getD 6 []) [.s (App.fmtDateOpt o.rc.dateLayout last), .i (App.daysAgo o.now last)] := by
  unfold App.statsOutput
  simp only [Tmpl.sprintfA, Tmpl.parse_getD, parse_stats, List.getD_cons_zero, List.getD_cons_succ, Tmpl.render_lits, Tmpl.render]
  -- both sides bracketed to the left: to the right, `List.append_assoc` is slow on a chain of thirty pieces
  simp only [Bool.false_eq_true, if_false, Tmpl.padLeft_zero, Tmpl.fmtInt_nat, ← List.append_assoc]

/-- `summary` is `summaryTemplate` over the literal pieces the source has now (after the date, between value and name of a total
    row, the rule line, between value and name of a food row; read by `tools/facts`). -/
theorem summary_layout_follows_template (cfg : RCfg) (d : LogDay) (db : Book) :
    renderSummary cfg d db =
      (let P := fun i => Facts.summaryPieces.getD i []
       Date.format cfg.dateLayout d.date ++ P 0
       ++ (match (reportItem db cfg d).2 with
           | none => []
           | some ts => (ts.map (fun t => [10] ++ fmtVal cfg.color t.pos ++ P 1 ++ t.name)).flatten)
       ++ [10] ++ P 2
       ++ ((reportItem db cfg d).1.map (fun el => [10] ++ fmtVal cfg.color el.value ++ P 3 ++ el.name)).flatten
       ++ [10]) := by
  have h : Facts.summaryPieces = [[32, 58], [32, 58, 32], dashes 12, [32, 58, 32]] := by decide
  simp only [h, List.getD_cons_zero, List.getD_cons_succ, renderSummary]
  cases (reportItem db cfg d).snd <;> rfl

/-- every regenerated format of the period reporters, the balance reporters and `print` uses only modelled verbs, and number
    verbs exactly where the call passes a number -/
theorem formats_well_typed :
    Tmpl.signature (Facts.totalFormats.getD 0 []) = some [false, false, false, false]
    ∧ Tmpl.signature (Facts.totalFormats.getD 1 []) = some [true, true, true, false]
    ∧ Tmpl.signature (Facts.quantityFormats.getD 0 []) = some [true, false]
    ∧ Tmpl.signature (Facts.quantityFormats.getD 1 []) = some [true, false]
    ∧ (∀ i, i < 4 → Tmpl.signature (Facts.balanceFormats.getD i []) = some [true, false, false])
    ∧ Tmpl.signature (Facts.balanceSingleFormats.getD 0 []) = some [false]
    ∧ Tmpl.signature (Facts.balanceSingleFormats.getD 1 []) = some [true, false]
    ∧ Tmpl.signature (Facts.printFormats.getD 0 []) = some [false]
    ∧ Tmpl.signature (Facts.printFormats.getD 1 []) = some [false, false]
    ∧ Tmpl.signature (Facts.printFormats.getD 2 []) = some [false]
    ∧ Tmpl.signature (Facts.printFormats.getD 3 []) = some [false, true]
    ∧ Tmpl.wellFormed (Facts.statsFormats.getD 1 []) 1 = true ∧ Tmpl.wellFormed (Facts.statsFormats.getD 5 []) 2 = true
    ∧ Tmpl.wellFormed (Facts.statsFormats.getD 6 []) 2 = true := by
  decide +kernel

example : Tmpl.sprintfA (Facts.totalFormats.getD 1 []) [.q (3/2), .q (-1/4), .q (5/4), .s [120]]
    = Bytes.ofString "        1.50         -0.25          1.25  x\n" := by decide +kernel

end Hrano.C07
