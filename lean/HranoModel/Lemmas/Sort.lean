import HranoModel.Lemmas.Bytes
import HranoModel.Model.Reports
/-
  Insertion sort by a byte-string key; the three sorts of the model are instances (`foldr_eq_sortBy`).
-/
namespace Hrano
namespace Srt

variable {α : Type}

def insertBy (key : α → Bytes) (e : α) : List α → List α
  | [] => [e]
  | x :: xs => if Bytes.le (key e) (key x) then e :: x :: xs else x :: insertBy key e xs

def sortBy (key : α → Bytes) (l : List α) : List α := l.foldr (insertBy key) []

def Sorted (key : α → Bytes) (l : List α) : Prop := l.Pairwise (fun a b => Bytes.le (key a) (key b) = true)

theorem insertBy_perm (key : α → Bytes) (e : α) : ∀ l, (insertBy key e l).Perm (e :: l)
  | [] => List.Perm.refl _
  | x :: xs => by
    unfold insertBy
    split
    · exact List.Perm.refl _
    · exact ((insertBy_perm key e xs).cons x).trans (List.Perm.swap e x xs)

theorem sortBy_perm (key : α → Bytes) : ∀ l, (sortBy key l).Perm l
  | [] => List.Perm.refl _
  | x :: xs => by
    show (insertBy key x (sortBy key xs)).Perm (x :: xs)
    exact (insertBy_perm key x _).trans ((sortBy_perm key xs).cons x)

theorem insertBy_sorted (key : α → Bytes) (e : α) : ∀ l, Sorted key l → Sorted key (insertBy key e l)
  | [], _ => List.pairwise_singleton _ _
  | x :: xs, h => by
    have ⟨hx, hxs⟩ := List.pairwise_cons.mp h
    unfold insertBy
    split
    · next hle =>
      exact List.pairwise_cons.mpr ⟨List.forall_mem_cons.mpr ⟨hle, fun b hb => Bytes.le_trans _ _ _ hle (hx b hb)⟩, h⟩
    · next hnle =>
      have hxe := (Bytes.le_total (key e) (key x)).resolve_left hnle
      refine List.pairwise_cons.mpr ⟨fun b hb => ?_, insertBy_sorted key e xs hxs⟩
      rcases List.mem_cons.mp ((insertBy_perm key e xs).mem_iff.mp hb) with rfl | hb'
      · exact hxe
      · exact hx b hb'

theorem sortBy_sorted (key : α → Bytes) : ∀ l, Sorted key (sortBy key l)
  | [] => List.Pairwise.nil
  | x :: xs => insertBy_sorted key x _ (sortBy_sorted key xs)

/-- the key lists of `Book.set` and `Elements.addTo` have this form -/
theorem nodup_append_new {β : Type} {l : List β} (h : l.Nodup) (n : β) [Decidable (n ∈ l)] : (if n ∈ l then l else l ++ [n]).Nodup := by
  split
  · exact h
  · next hn =>
    exact List.nodup_append.mpr ⟨h, List.pairwise_singleton _ _, fun a ha b hb hab => hn (List.mem_singleton.mp hb ▸ hab ▸ ha)⟩

theorem inj_of_nodup_map {β : Type} {key : α → β} : ∀ {l : List α}, (l.map key).Nodup → ∀ {a b}, a ∈ l → b ∈ l → key a = key b → a = b
  | x :: xs, h, a, b, ha, hb, hab => by
    rw [List.map_cons, List.nodup_cons] at h
    rcases List.mem_cons.mp ha with rfl | ha' <;> rcases List.mem_cons.mp hb with rfl | hb'
    · rfl
    · exact absurd (hab ▸ List.mem_map_of_mem hb') h.1
    · exact absurd (hab ▸ List.mem_map_of_mem ha') h.1
    · exact inj_of_nodup_map h.2 ha' hb' hab

theorem find?_of_mem {key : α → Bytes} {l : List α} (hnd : (l.map key).Nodup) {x : α} (hx : x ∈ l) :
    l.find? (fun y => key y == key x) = some x := by
  cases hf : l.find? (fun y => key y == key x) with
  | none => exact absurd BEq.rfl (List.find?_eq_none.mp hf x hx)
  | some y => rw [inj_of_nodup_map hnd (List.mem_of_find?_eq_some hf) hx (eq_of_beq (List.find?_some hf :))]

theorem sorted_unique (key : α → Bytes) (l₁ l₂ : List α) (hinj : ∀ a ∈ l₁, ∀ b ∈ l₁, key a = key b → a = b)
    (h₁ : Sorted key l₁) (h₂ : Sorted key l₂) (hp : l₁.Perm l₂) : l₁ = l₂ :=
  List.Perm.eq_of_pairwise (fun a b ha hb hab hba => hinj a ha b (hp.mem_iff.mpr hb) (Bytes.le_antisymm _ _ hab hba)) h₁ h₂ hp

theorem sortBy_perm_eq (key : α → Bytes) (l₁ l₂ : List α) (hp : l₁.Perm l₂) (hinj : ∀ a ∈ l₁, ∀ b ∈ l₁, key a = key b → a = b) :
    sortBy key l₁ = sortBy key l₂ :=
  sorted_unique key _ _
    (fun a ha b hb => hinj a ((sortBy_perm key l₁).mem_iff.mp ha) b ((sortBy_perm key l₁).mem_iff.mp hb))
    (sortBy_sorted key l₁) (sortBy_sorted key l₂) ((sortBy_perm key l₁).trans (hp.trans (sortBy_perm key l₂).symm))

theorem sortBy_of_sorted (key : α → Bytes) : ∀ l, Sorted key l → sortBy key l = l
  | [], _ => rfl
  | x :: xs, h => by
    have hx : ∀ b ∈ xs, Bytes.le (key x) (key b) = true := (List.pairwise_cons.mp h).1
    have hxs : Sorted key xs := (List.pairwise_cons.mp h).2
    show insertBy key x (sortBy key xs) = x :: xs
    rw [sortBy_of_sorted key xs hxs]
    cases xs with
    | nil => rfl
    | cons y ys => simp [insertBy, hx y (List.mem_cons_self)]

/-- a sort written as `foldr ins []` over its own copy of the insertion, given by its two equations -/
theorem foldr_eq_sortBy {key : α → Bytes} {ins : α → List α → List α} (h₀ : ∀ e, ins e [] = [e])
    (h₁ : ∀ e x xs, ins e (x :: xs) = if Bytes.le (key e) (key x) then e :: x :: xs else x :: ins e xs) (l : List α) :
    l.foldr ins [] = sortBy key l := by
  have h : ins = insertBy key := funext fun e => funext fun l => by
    induction l with
    | nil => exact h₀ e
    | cons x xs ih => rw [h₁, ih]; rfl
  rw [h]
  rfl

theorem elements_sort_eq (l : Elements) : Elements.sort l = sortBy (·.name) l :=
  foldr_eq_sortBy (ins := Elements.insertSorted) (fun _ => rfl) (fun _ _ _ => rfl) l

theorem acc_sorted_eq (l : Accumulator) : Accumulator.sorted l = sortBy (·.name) l :=
  foldr_eq_sortBy (ins := Accumulator.insertSorted) (fun _ => rfl) (fun _ _ _ => rfl) l

theorem sortBook_eq (l : Book) : Report.sortBook l = sortBy (·.1) l :=
  foldr_eq_sortBy (ins := Report.sortBook.ins) (fun _ => rfl) (fun _ _ _ => rfl) l

end Srt
end Hrano
