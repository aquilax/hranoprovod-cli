import HranoModel.Model.Date
/-!
The day count on one running count of months.  `toDays` counts years from 1 March of the year −400 (`ys`) and months from
March within such a year (`ms`).  Number the months in one sequence (`mi`): the first day of a month (`fm`) advances by the
length of that month (`fm_step`; the only place where February, which closes the March-based year, is told from the other
months), and the day number of a date is the first day of its month plus the day of the month (`toDays_eq`).  The next day
either stays in the month or starts the next one (`next_cases`), hence `toDays_next`.
A month number is written `12 * Y + mp` with `mp < 12` wherever its year and month matter (`fm_mk`; `mi_coords` gives `Y` and
`mp` for a date), so that no arithmetic after `fm_mk` has a division by 12 in it (`fm_mono` splits its month number by `Nat.div_add_mod`).
Calendar order is the order of (month number, day) (`mi_before`), so the day count is strictly monotone in it (`toDays_lt`),
hence injective on accepted dates, hence comparing instants is comparing calendar dates (`instant_lt_iff`, `instant_eq_iff`).
-/
namespace Hrano
namespace Date

/-- the calendar day after `c` -/
def next (c : Civil) : Civil :=
  if c.d < daysIn c.m c.y then ⟨c.y, c.m, c.d + 1⟩
  else if c.m < 12 then ⟨c.y, c.m + 1, 1⟩
  else ⟨c.y + 1, 1, 1⟩

/-- an accepted civil date: month 1..12, day 1..length of that month -/
def Valid (c : Civil) : Prop := 1 ≤ c.m ∧ c.m ≤ 12 ∧ 1 ≤ c.d ∧ c.d ≤ daysIn c.m c.y

/-- calendar order: by year, then month, then day -/
def before (a b : Civil) : Prop := a.y < b.y ∨ (a.y = b.y ∧ (a.m < b.m ∨ (a.m = b.m ∧ a.d < b.d)))

/-- first day of the March-based year `Y` (counted from the shifted origin) -/
def ys (Y : Nat) : Nat := 365 * Y + Y / 4 - Y / 100 + Y / 400

/-- first day of the month `mp` (0 = March) within its March-based year -/
def ms (mp : Nat) : Nat := (153 * mp + 2) / 5

/-- the number of a date's month, counted from March of the year −400: `12 * (y + 400) + (m - 3)`, and 4797 = 12·400 − 3 -/
def mi (c : Civil) : Nat := 12 * c.y + c.m + 4797

/-- first day of the month number `M` -/
def fm (M : Nat) : Nat := ys (M / 12) + ms (M % 12)

theorem isLeap_iff (y : Nat) : isLeap y = true ↔ 4 ∣ y ∧ (¬ 100 ∣ y ∨ 400 ∣ y) := by
  simp [isLeap, Nat.dvd_iff_mod_eq_zero]

theorem isLeap_add_400 (y : Nat) : isLeap (y + 400) = isLeap y := by
  simp [isLeap, Nat.add_mod]

theorem incl_excl (p q r : Prop) [Decidable p] [Decidable q] [Decidable r] (hqp : q → p) (hrq : r → q) :
    (if p ∧ (¬ q ∨ r) then 1 else 0 : Nat) + (if q then 1 else 0) = (if p then 1 else 0) + (if r then 1 else 0) := by
  by_cases hp : p <;> by_cases hq : q <;> by_cases hr : r <;> simp_all

/-- the year start without the truncated subtraction, so that `omega` has no case to split -/
theorem ys_add (Y : Nat) : ys Y + Y / 100 = 365 * Y + Y / 4 + Y / 400 := by
  have h : Y / 100 ≤ Y / 4 := Nat.div_le_div_left (by decide) (by decide)
  rw [ys, Nat.add_right_comm, Nat.sub_add_cancel (Nat.le_trans h (Nat.le_add_left _ _))]

theorem ys_step (Y : Nat) : ys (Y + 1) = ys Y + 365 + (if isLeap (Y + 1) then 1 else 0) := by
  -- the leap indicator of `Y + 1` is [4 ∣] − [100 ∣] + [400 ∣], and each quotient steps exactly when its divisor divides `Y + 1`
  have := incl_excl (4 ∣ Y + 1) (100 ∣ Y + 1) (400 ∣ Y + 1) (Nat.dvd_trans (by decide)) (Nat.dvd_trans (by decide))
  have h := ys_add (Y + 1)
  have h' := ys_add Y
  -- `omega` over the quotients of `Y` and of `Y + 1` by 4, 100 and 400 together runs out of heartbeats: step each quotient
  simp only [Nat.succ_div] at h
  simp only [isLeap_iff]
  omega

theorem split_div (k j q r : Nat) (hk : 0 < k) : (k * j * q + r) / k = j * q + r / k := by
  rw [Nat.mul_assoc, Nat.mul_add_div hk]

/-- the year start within an era, as `toDays` and `ofDays` compute it -/
theorem ys_of_lt (r : Nat) (h : r < 400) : ys r = 365 * r + r / 4 - r / 100 := by
  rw [ys, Nat.div_eq_of_lt h]; rfl

theorem ys_era (q r : Nat) : ys (400 * q + r) = 146097 * q + ys r := by
  have h := ys_add (400 * q + r)
  have h' := ys_add r
  rw [split_div 4 100 q r (by decide), split_div 100 4 q r (by decide), split_div 400 1 q r (by decide)] at h
  omega

/-- lengths of the months in the March-based numbering used by the day count -/
theorem month_step (mp : Nat) (h : mp < 11) :
    (153 * (mp + 1) + 2) / 5 = (153 * mp + 2) / 5 + (if mp = 0 ∨ mp = 2 ∨ mp = 4 ∨ mp = 5 ∨ mp = 7 ∨ mp = 9 ∨ mp = 10 then 31 else 30) := by
  revert mp
  decide

theorem daysIn_year (m y y' : Nat) (h : m ≠ 2) : daysIn m y = daysIn m y' := by
  simp [daysIn, h]

/-- the month `mp` of the March-based year is the civil month `mp + 3` (`mp − 9` from January on), and has its length -/
theorem ms_succ (mp y : Nat) (h : mp < 11) : ms (mp + 1) = ms mp + daysIn (if mp < 10 then mp + 3 else mp - 9) y := by
  have t : ∀ mp < 11, (if mp < 10 then mp + 3 else mp - 9) ≠ 2
      ∧ ms (mp + 1) = ms mp + daysIn (if mp < 10 then mp + 3 else mp - 9) 0 := by decide
  rw [(t mp h).2, daysIn_year _ y 0 (t mp h).1]

theorem fm_mk (Y mp : Nat) (h : mp < 12) : fm (12 * Y + mp) = ys Y + ms mp := by
  rw [fm, Nat.mul_add_div (by decide), Nat.mul_add_mod, Nat.div_eq_of_lt h, Nat.mod_eq_of_lt h, Nat.add_zero]

theorem fm_succ (Y mp : Nat) (h : mp < 12) : fm (12 * Y + mp + 1) = if mp = 11 then ys (Y + 1) else ys Y + ms (mp + 1) := by
  split
  · next h11 => subst h11; exact fm_mk (Y + 1) 0 (by decide)
  · rw [Nat.add_assoc, fm_mk Y (mp + 1) (by omega)]

/-- **the first day of a month advances by the length of the month**; month `mp` of the March-based year `Y` is the civil
    month and year that `ofDays` computes from them, and February closes the March-based year -/
theorem fm_step (Y mp : Nat) (h : mp < 12) :
    fm (12 * Y + mp + 1) = fm (12 * Y + mp) + daysIn (if mp < 10 then mp + 3 else mp - 9) (if mp < 10 then Y else Y + 1) := by
  rw [fm_succ Y mp h, fm_mk Y mp h]
  split
  · next h11 =>
    subst h11
    rw [ys_step]
    -- February starts on day `ms 11 = 337` of the March-based year and ends it
    show _ = ys Y + 337 + if isLeap (Y + 1) then 29 else 28
    split <;> rfl
  · rw [ms_succ mp _ (by omega), Nat.add_assoc]

theorem fm_mono (M M' : Nat) (h : M ≤ M') : fm M ≤ fm M' := by
  induction h with
  | refl => exact Nat.le_refl _
  | @step m _ ih =>
    have s := fm_step (m / 12) (m % 12) (Nat.mod_lt _ (by decide))
    rw [Nat.div_add_mod] at s
    exact Nat.le_trans ih (s ▸ Nat.le_add_right _ _)

/-- the month of `c` is month `mp` of the March-based year `Y`: `toDays` computes `Y` and `mp` from the civil year and month,
    `ofDays` the civil month and year from `Y` and `mp` -/
structure Coords (c : Civil) (Y mp : Nat) : Prop where
  lt : mp < 12
  mi_eq : mi c = 12 * Y + mp
  year : (if c.m ≤ 2 then c.y + 400 - 1 else c.y + 400) = Y
  month : (if c.m > 2 then c.m - 3 else c.m + 9) = mp
  civilMonth : (if mp < 10 then mp + 3 else mp - 9) = c.m
  civilYear : (if mp < 10 then Y else Y + 1) = c.y + 400

theorem mi_coords (c : Civil) (h1 : 1 ≤ c.m) (h2 : c.m ≤ 12) : ∃ Y mp, Coords c Y mp := by
  by_cases h : c.m ≤ 2
  · exact ⟨c.y + 399, c.m + 9, by omega, by unfold mi; omega, if_pos h, if_neg (by omega), if_neg (by omega), if_neg (by omega)⟩
  · exact ⟨c.y + 400, c.m - 3, by omega, by unfold mi; omega, if_neg h, if_pos (by omega), (if_pos (by omega)).trans (by omega),
      if_pos (by omega)⟩

theorem fm_next (c : Civil) (h1 : 1 ≤ c.m) (h2 : c.m ≤ 12) : fm (mi c + 1) = fm (mi c) + daysIn c.m c.y := by
  obtain ⟨Y, mp, k⟩ := mi_coords c h1 h2
  rw [k.mi_eq, fm_step Y mp k.lt, k.civilMonth, k.civilYear, daysIn, daysIn, isLeap_add_400]

/-- **the day number of a date is the first day of its month plus the day of the month** (less the shift of the origin:
    865566 = 719468 + 146097, the two shifts in `toDays`, + 1, days of the month being counted from 1) -/
theorem toDays_eq (c : Civil) (hc : Valid c) : toDays c = ((fm (mi c) + c.d : Nat) : Int) - 865566 := by
  obtain ⟨h1, h2, h3, _⟩ := hc
  obtain ⟨Y, mp, k⟩ := mi_coords c h1 h2
  unfold toDays
  simp only []
  rw [k.year, k.month, k.mi_eq, fm_mk Y mp k.lt, ← ms, ← Nat.mod_eq_sub_div_mul]
  have e := ys_era (Y / 400) (Y % 400)
  rw [Nat.div_add_mod] at e
  rw [e, Nat.mul_comm (Y % 400) 365, ← ys_of_lt (Y % 400) (Nat.mod_lt _ (by decide))]
  generalize ys (Y % 400) = g, Y / 400 = q, ms mp = u
  omega

theorem next_cases (c : Civil) (hc : Valid c) :
    (c.d < daysIn c.m c.y ∧ mi (next c) = mi c ∧ (next c).d = c.d + 1)
    ∨ (c.d = daysIn c.m c.y ∧ mi (next c) = mi c + 1 ∧ (next c).d = 1) := by
  obtain ⟨h1, h2, h3, h4⟩ := hc
  unfold next
  split
  · next hlt => exact Or.inl ⟨hlt, rfl, rfl⟩
  · next hge =>
    refine Or.inr ⟨Nat.le_antisymm h4 (Nat.not_lt.mp hge), ?_⟩
    split
    · exact ⟨by simp only [mi]; omega, rfl⟩
    · exact ⟨by simp only [mi]; omega, rfl⟩

theorem daysIn_range (m y : Nat) : 28 ≤ daysIn m y ∧ daysIn m y ≤ 31 := by
  unfold daysIn
  split <;> split <;> decide

theorem next_valid (c : Civil) (hc : Valid c) : Valid (next c) := by
  obtain ⟨h1, h2, h3, h4⟩ := hc
  unfold next
  split
  · next hlt => exact ⟨h1, h2, Nat.le_add_left 1 _, hlt⟩
  · split
    · next hm => exact ⟨Nat.le_add_left 1 _, hm, Nat.le_refl 1, Nat.le_trans (show 1 ≤ 28 by decide) (daysIn_range _ _).1⟩
    · exact ⟨Nat.le_refl 1, show 1 ≤ 12 by decide, Nat.le_refl 1, Nat.le_trans (show 1 ≤ 28 by decide) (daysIn_range _ _).1⟩

theorem toDays_next (c : Civil) (hc : Valid c) : toDays (next c) = toDays c + 1 := by
  rw [toDays_eq _ (next_valid c hc), toDays_eq c hc]
  have e := fm_next c hc.1 hc.2.1
  rcases next_cases c hc with ⟨_, h, h'⟩ | ⟨_, h, h'⟩ <;> rw [h, h'] <;> omega

theorem instant_next (c : Civil) (hc : Valid c) : instant (next c) = instant c + nsPerDay := by
  unfold instant
  rw [toDays_next c hc, Int.add_mul, Int.one_mul]

example : toDays ⟨1970, 1, 1⟩ = 0 ∧ toDays ⟨2000, 3, 1⟩ = 11017 ∧ next ⟨2000, 2, 29⟩ = ⟨2000, 3, 1⟩ ∧ next ⟨1900, 2, 28⟩ = ⟨1900, 3, 1⟩ := by
  decide

theorem mi_before (a b : Civil) (ha : Valid a) (hb : Valid b) : before a b ↔ mi a < mi b ∨ (mi a = mi b ∧ a.d < b.d) := by
  obtain ⟨a1, a2, -, -⟩ := ha
  obtain ⟨b1, b2, -, -⟩ := hb
  unfold before mi
  omega

/-- **the day count is strictly monotone in calendar order** -/
theorem toDays_lt (a b : Civil) (ha : Valid a) (hb : Valid b) (h : before a b) : toDays a < toDays b := by
  rw [toDays_eq a ha, toDays_eq b hb]
  rcases (mi_before a b ha hb).1 h with h | ⟨h, hd⟩
  · -- an earlier month ends before the later one starts
    have := fm_next a ha.1 ha.2.1
    have := fm_mono (mi a + 1) (mi b) h
    have := ha.2.2.2
    have := hb.2.2.1
    omega
  · rw [h]; omega

theorem before_trichotomy (a b : Civil) : before a b ∨ a = b ∨ before b a := by
  obtain ⟨y1, m1, d1⟩ := a
  obtain ⟨y2, m2, d2⟩ := b
  unfold before
  simp only [Civil.mk.injEq]
  omega

theorem before_asymm (a b : Civil) (h : before a b) : ¬ before b a ∧ a ≠ b := by
  obtain ⟨y1, m1, d1⟩ := a
  obtain ⟨y2, m2, d2⟩ := b
  unfold before at *
  simp only [ne_eq, Civil.mk.injEq] at *
  omega

theorem toDays_inj (a b : Civil) (ha : Valid a) (hb : Valid b) (h : toDays a = toDays b) : a = b := by
  rcases before_trichotomy a b with h1 | h1 | h1
  · have := toDays_lt a b ha hb h1; omega
  · exact h1
  · have := toDays_lt b a hb ha h1; omega

theorem toDays_lt_iff (a b : Civil) (ha : Valid a) (hb : Valid b) : toDays a < toDays b ↔ before a b := by
  refine ⟨fun h => ?_, toDays_lt a b ha hb⟩
  rcases before_trichotomy a b with h1 | h1 | h1
  · exact h1
  · subst h1; omega
  · have := toDays_lt b a hb ha h1; omega

theorem instant_lt_iff (a b : Civil) (ha : Valid a) (hb : Valid b) : instant a < instant b ↔ before a b := by
  rw [← toDays_lt_iff a b ha hb]
  unfold instant nsPerDay
  omega

theorem instant_eq_iff (a b : Civil) (ha : Valid a) (hb : Valid b) : instant a = instant b ↔ a = b := by
  refine ⟨fun h => toDays_inj a b ha hb ?_, fun h => by rw [h]⟩
  unfold instant nsPerDay at h
  omega

theorem instant_div (c : Civil) : instant c / nsPerDay = toDays c :=
  Int.mul_ediv_cancel _ (by decide)

example : before ⟨1999, 12, 31⟩ ⟨2000, 1, 1⟩ ∧ before ⟨2000, 2, 29⟩ ⟨2000, 3, 1⟩ ∧ Valid ⟨2000, 2, 29⟩ ∧ ¬ Valid ⟨1900, 2, 29⟩ := by
  unfold before Valid; decide

end Date
end Hrano
