import HranoModel.Model.Template
/-!
The model of `fmt.Sprintf` on the regenerated formats (`Facts.*Formats`).  Each layout theorem in `Props/` is preceded by what
its table of formats parses to (decided in the kernel: these are the proof obligations a change of a format in the source
breaks, and they stand next to the one property that depends on them); a row printed with the `i`-th format is then `render`
of the `i`-th piece list (`parse_getD`), which `simp only [render]` evaluates for arbitrary arguments at the place of use.
-/
namespace Hrano.Tmpl
open Hrano Hrano.Bytes Hrano.Report

@[simp] theorem padLeft_zero (a : Bytes) : padLeft 32 0 a = a := by simp [padLeft]

@[simp] theorem fmtFixedW_zero (p : Nat) (v : Q) : Num.fmtFixedW 0 p v = Num.fmtFixed p v := by simp [Num.fmtFixedW]

theorem parse_getD (F : List Bytes) (i : Nat) : parseFmt (F.getD i []) = (F.map parseFmt).getD i [] := by
  simp only [List.getD_eq_getElem?_getD, List.getElem?_map]
  cases F[i]? <;> rfl

theorem render_lits (b : Bytes) (ps : List Piece) (args : List Arg) : render (b.map .lit ++ ps) args = b ++ render ps args := by
  induction b with
  | nil => rfl
  | cons x xs ih => simp [render, ih]

theorem fmtInt_nat (n : Nat) : Num.fmtInt (Int.ofNat n) = natDigits n := by
  simp [Num.fmtInt]

end Hrano.Tmpl
