import HranoModel.Lemmas.DayCount
/-!
`Date.ofDays` (Hinnant's `civil_from_days`) inverts `Date.toDays` on every accepted date.  The year of the era is recovered by
the monotonicity of the formula's numerator between the two ends of each of the 400 years of an era (a 400-row table evaluated by the kernel),
the month from the month starts.  The result is stated for every day of every month (`ofDays_fm`); the day number of a
date is such a day (`toDays_eq`).
-/
namespace Hrano
namespace Date

/-- numerator of the year-of-era formula of `ofDays` -/
def num (x : Nat) : Nat := x - x / 1460 + x / 36524 - x / 146096

theorem sub_div_mono (k : Nat) {x y : Nat} (h : x ≤ y) : x - x / k ≤ y - y / k := by
  induction h with
  | refl => exact Nat.le_refl _
  | @step m _ ih =>
    -- one more: either the quotient steps too and the difference stays, or it grows
    refine Nat.le_trans ih ?_
    rw [Nat.succ_div]
    split
    · exact Nat.le_of_eq (Nat.add_sub_add_right m 1 (m / k)).symm
    · exact Nat.sub_le_sub_right (Nat.le_succ m) _

/-- the last term undoes a quarter of the third, since 146096 = 4 · 36524 -/
theorem num_eq (x : Nat) : num x = (x - x / 1460) + (x / 36524 - x / 36524 / 4) := by
  have e : x / 146096 = x / 36524 / 4 := by rw [Nat.div_div_eq_div_mul]
  rw [num, e]
  exact Nat.add_sub_assoc (Nat.div_le_self _ 4) _

theorem num_mono {a b : Nat} (h : a ≤ b) : num a ≤ num b := by
  rw [num_eq, num_eq]
  exact Nat.add_le_add (sub_div_mono 1460 h) (sub_div_mono 4 (Nat.div_le_div_right h))

theorem ends_table : ∀ r < 400, num (ys r) / 365 = r ∧ num (ys (r + 1) - 1) / 365 = r ∧ ys (r + 1) ≤ 146097 := by
  decide +kernel

/-- **the year-of-era formula inverts the year start**: every day of year `r` of an era is mapped back to `r` -/
theorem yoe_of_ys {r x : Nat} (hr : r < 400) (h1 : ys r ≤ x) (h2 : x < ys (r + 1)) : num x / 365 = r := by
  obtain ⟨t1, t2, -⟩ := ends_table r hr
  have l1 := Nat.div_le_div_right (c := 365) (num_mono h1)
  have l2 := Nat.div_le_div_right (c := 365) (num_mono (Nat.le_sub_one_of_lt h2))
  rw [t1] at l1
  rw [t2] at l2
  exact Nat.le_antisymm l2 l1

theorem month_of_offset (mp x : Nat) (h1 : ms mp ≤ x) (h2 : x < ms (mp + 1)) : (5 * x + 2) / 153 = mp := by
  unfold ms at *
  omega

/-- a month ends inside its March-based year, and before the place where a thirteenth month would start -/
theorem fm_succ_le (Y mp : Nat) (h : mp < 12) :
    fm (12 * Y + mp + 1) ≤ ys (Y + 1) ∧ fm (12 * Y + mp + 1) ≤ ys Y + ms (mp + 1) := by
  have s : ys Y + 365 ≤ ys (Y + 1) ∧ ys (Y + 1) ≤ ys Y + 366 := by rw [ys_step]; split <;> omega
  rw [fm_succ Y mp h]
  split
  · next h11 =>
    subst h11
    exact ⟨Nat.le_refl _, Nat.le_trans s.2 (Nat.add_le_add_left (by decide : 366 ≤ ms 12) _)⟩
  · have : ms (mp + 1) ≤ 365 := by unfold ms; omega
    exact ⟨Nat.le_trans (Nat.add_le_add_left this _) s.1, Nat.le_refl _⟩

/-- the era and the year of the era that `ofDays` computes for a day of the March-based year `Y` -/
theorem year_of_day (Y off : Nat) (h : ys Y + off < ys (Y + 1)) :
    (ys Y + off) / 146097 = Y / 400 ∧ ys Y + off - Y / 400 * 146097 = ys (Y % 400) + off
      ∧ num (ys (Y % 400) + off) / 365 = Y % 400 := by
  have hr : Y % 400 < 400 := Nat.mod_lt _ (by decide)
  have e := ys_era (Y / 400) (Y % 400)
  have e' := ys_era (Y / 400) (Y % 400 + 1)
  rw [← Nat.add_assoc, Nat.div_add_mod] at e'
  rw [Nat.div_add_mod] at e
  rw [e, e', Nat.add_assoc] at h
  have hlt := Nat.lt_of_add_lt_add_left h
  -- `ys Y + off = 146097 * (Y / 400) + (ys (Y % 400) + off)`, and the second summand is less than an era
  rw [e, Nat.add_assoc, Nat.mul_add_div (by decide), Nat.div_eq_of_lt (Nat.lt_of_lt_of_le hlt (ends_table _ hr).2.2), Nat.add_zero,
    Nat.mul_comm, Nat.add_sub_cancel_left]
  exact ⟨rfl, rfl, yoe_of_ys hr (Nat.le_add_right _ _) hlt⟩

/-- **the date of a day number is read off the month it falls in**: the `d`-th day of month `mp` of the March-based year
    `Y` is that day of the civil month and year that `ofDays` computes from them (the day number as in `toDays_eq`) -/
theorem ofDays_fm (Y mp d : Nat) (h : mp < 12) (h1 : 1 ≤ d) (hd : fm (12 * Y + mp) + d ≤ fm (12 * Y + mp + 1)) :
    ofDays (((fm (12 * Y + mp) + d : Nat) : Int) - 865566)
      = ⟨(if mp < 10 then Y else Y + 1) - 400, if mp < 10 then mp + 3 else mp - 9, d⟩ := by
  obtain ⟨k, rfl⟩ : ∃ k, d = k + 1 := ⟨d - 1, (Nat.sub_add_cancel h1).symm⟩
  have b := fm_succ_le Y mp h
  rw [fm_mk Y mp h] at hd ⊢
  -- January and February (`mp ≥ 10`) are counted with the March-based year before their own
  have hy : (if (if mp < 10 then mp + 3 else mp - 9) ≤ 2 then Y + 1 else Y) = if mp < 10 then Y else Y + 1 := by
    split
    · exact if_neg (by omega)
    · exact if_pos (by omega)
  obtain ⟨y1, y2, y3⟩ := year_of_day Y (ms mp + k) (by omega)
  have hmp := month_of_offset mp (ms mp + k) (Nat.le_add_right _ _) (by omega)
  have hg := ys_of_lt (Y % 400) (Nat.mod_lt _ (by decide))
  have hz : ((ys Y + ms mp + (k + 1) : Nat) : Int) - 865566 + 719468 + 146097 = ((ys Y + (ms mp + k) : Nat) : Int) := by omega
  have hms : (153 * mp + 2) / 5 = ms mp := rfl
  unfold num at y3
  unfold ofDays
  simp only [hz, Int.toNat_natCast, y1, y2, y3, ← hg, Nat.add_sub_cancel_left, hmp, hms, Nat.mod_add_div', hy]

/-- **the date of the day number of an accepted date is that date** (`ofDays` inverts `toDays`) -/
theorem ofDays_toDays (c : Civil) (hc : Valid c) : ofDays (toDays c) = c := by
  have e := toDays_eq _ hc
  obtain ⟨h1, h2, h3, h4⟩ := hc
  have s := fm_next c h1 h2
  obtain ⟨Y, mp, k⟩ := mi_coords c h1 h2
  rw [k.mi_eq] at e s
  rw [e, ofDays_fm Y mp c.d k.lt h3 (s ▸ Nat.add_le_add_left h4 _), k.civilMonth, k.civilYear, Nat.add_sub_cancel]

example : ofDays (toDays ⟨2024, 2, 29⟩) = ⟨2024, 2, 29⟩ ∧ ofDays 0 = ⟨1970, 1, 1⟩ := by decide

end Date
end Hrano
