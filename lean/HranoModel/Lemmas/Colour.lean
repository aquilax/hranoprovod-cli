import HranoModel.Lemmas.Present
/-
  For C15: removing the escape codes from a whole coloured register day gives the plain day.
  Each renderer is walked once along its block structure with the closure rules of `StripsTo`; a row without
  inner rows is read from left to right, figure (`.fig`) by figure and text (`.text`) by text.
-/
namespace Hrano
namespace Report
open Bytes

/-- the names a register day shows: the logged foods, the elements they contribute, the names of the totals -/
def NamesPlain (db : Book) (d : LogDay) : Prop :=
  (∀ e ∈ d.elements, noEsc e.name) ∧ (∀ e ∈ d.elements, ∀ i ∈ contributions db e, noEsc i.name)
  ∧ (∀ t ∈ totalsOf (d.elements.foldl (fun a e => accumulate a (contributions db e)) []), noEsc t.name)

theorem reportItem_color (db : Book) (cfg : RCfg) (d : LogDay) (b : Bool) :
    reportItem db { cfg with color := b } d = reportItem db cfg d := rfl

/-- … as the names of the report item the templates render -/
theorem NamesPlain.item {db : Book} {d : LogDay} (hn : NamesPlain db d) (cfg : RCfg) :
    (∀ el ∈ (reportItem db cfg d).1, noEsc el.name ∧ ∀ i ∈ el.ingredients, noEsc i.name)
    ∧ ∀ ts, (reportItem db cfg d).2 = some ts → ∀ t ∈ ts, noEsc t.name := by
  obtain ⟨hfood, hing, htot⟩ := hn
  unfold reportItem
  constructor
  · intro el hel
    split at hel
    · cases hel
    · obtain ⟨e, he, rfl⟩ := List.mem_map.mp hel
      exact ⟨hfood e he, hing e he⟩
  · intro ts hts
    simp only [] at hts
    split at hts
    · cases hts; exact htot
    · cases hts

theorem noEsc_reencode (r : Bytes) (h : noEsc r) : noEsc (reencode r) := by
  unfold reencode
  split
  · split
    · exact h
    · simp
  · exact h

theorem noEsc_shorten (on : Bool) (t : Bytes) (max : Nat) (h : noEsc t) : noEsc (shorten on t max) := by
  unfold shorten
  split
  · have hre : ∀ l : List Bytes, (∀ r ∈ l, r ∈ Bytes.runes t) → noEsc (l.map reencode).flatten := fun l hl =>
      noEsc_flatten.mpr fun s hs =>
        have ⟨r, hrl, e⟩ := List.mem_map.mp hs
        e ▸ noEsc_reencode r fun c hc => h c (Bytes.mem_of_mem_runes (hl r hrl) c hc)
    unfold truncateMiddle
    simp only []
    split
    · exact h
    · split
      · exact hre _ fun r => List.mem_of_mem_take
      · exact noEsc_append.mpr ⟨noEsc_append.mpr ⟨hre _ fun r => List.mem_of_mem_take, by simp⟩, hre _ fun r => List.mem_of_mem_drop⟩
  · exact h

theorem noEsc_totalsHead : noEsc (ofString "-- TOTAL  ") ∧ noEsc (ofString " TOTAL --") := by
  unfold noEsc
  decide +kernel

theorem strip_renderLeft (cfg : RCfg) (d : LogDay) (db : Book) (hdate : noEsc (Date.format cfg.dateLayout d.date))
    (hn : NamesPlain db d) :
    stripAnsi (renderLeft { cfg with color := true } d db) = renderLeft { cfg with color := false } d db := by
  obtain ⟨hel, htot⟩ := hn.item cfg
  simp only [renderLeft, reportItem_color]
  generalize reportItem db cfg d = item at hel htot
  obtain ⟨els, tots⟩ := item
  refine (StripsTo.append (.append (.append (.plain hdate) (.rows fun el h => .append ?_ (.rows fun i hi => ?_))) ?_)
    (.plain (by simp))).stripAnsi_eq
  · exact (StripsTo.plain (by simp)).fig _ |>.text (by simp) |>.text (hel el h).1
  · exact (StripsTo.plain (by simp)).fig _ |>.text (by simp) |>.text ((hel el h).2 i hi)
  · cases tots with
    | none => exact .plain noEsc_nil
    | some ts =>
      refine .append (.plain (by simp [noEsc_totalsHead])) (.rows fun t ht => ?_)
      exact (StripsTo.plain (by simp)).fig _ |>.text (by simp) |>.fig _ |>.text (by simp) |>.fig _ |>.text (by simp)
        |>.text (htot ts rfl t ht)

theorem strip_renderDefault (cfg : RCfg) (d : LogDay) (db : Book) (hdate : noEsc (Date.format cfg.dateLayout d.date))
    (hn : NamesPlain db d) :
    stripAnsi (renderDefault { cfg with color := true } d db) = renderDefault { cfg with color := false } d db := by
  obtain ⟨hel, htot⟩ := hn.item cfg
  simp only [renderDefault, reportItem_color]
  generalize reportItem db cfg d = item at hel htot
  obtain ⟨els, tots⟩ := item
  refine (StripsTo.append (.append (.append (.plain hdate) (.rows fun el h => .append ?_ (.rows fun i hi => ?_))) ?_)
    (.plain (by simp))).stripAnsi_eq
  · exact (StripsTo.plain (by simp [noEsc_shorten, (hel el h).1])).fig _
  · exact (StripsTo.plain (by simp [noEsc_shorten, (hel el h).2 i hi])).fig _
  · cases tots with
    | none => exact .plain noEsc_nil
    | some ts =>
      refine .append (.plain (by simp [noEsc_totalsHead])) (.rows fun t ht => ?_)
      exact (StripsTo.plain (by simp [noEsc_shorten, htot ts rfl t ht])).fig _ |>.text (by simp) |>.fig _ |>.text (by simp) |>.fig _

theorem strip_renderOld (cfg : RCfg) (d : LogDay) (db : Book) (hdate : noEsc (Date.format cfg.dateLayout d.date))
    (hn : NamesPlain db d) :
    stripAnsi (renderOld { cfg with color := true } d db) = renderOld { cfg with color := false } d db := by
  obtain ⟨hfood, hing, htot⟩ := hn
  simp only [renderOld]
  refine (StripsTo.append (.append (.plain (by simp [hdate]))
      (.rows fun e he => .ite (fun _ => .plain noEsc_nil) fun _ => .append ?_ (.rows fun i hi => ?_)))
    (.ite (fun _ => .append (.plain ?_) (.rows fun a ha => ?_)) fun _ => .plain noEsc_nil)).stripAnsi_eq
  · exact (StripsTo.plain (by simp [hfood e he])).fig _ |>.text (by simp)
  · exact (StripsTo.plain (by simp [hing e he i hi])).fig _ |>.text (by simp)
  · simp [noEsc_totalsHead]
  · have : noEsc a.name := htot ⟨a.name, a.pos, a.neg, a.pos + a.neg⟩ (List.mem_map.mpr ⟨a, ha, rfl⟩)
    exact (StripsTo.plain (by simp [this])).fig _ |>.text (by simp) |>.fig _ |>.text (by simp) |>.fig _ |>.text (by simp)

theorem strip_renderSummary (cfg : RCfg) (d : LogDay) (db : Book) (hdate : noEsc (Date.format cfg.dateLayout d.date))
    (hn : NamesPlain db d) :
    stripAnsi (renderSummary { cfg with color := true } d db) = renderSummary { cfg with color := false } d db := by
  obtain ⟨hel, htot⟩ := hn.item cfg
  simp only [renderSummary, reportItem_color]
  generalize reportItem db cfg d = item at hel htot
  obtain ⟨els, tots⟩ := item
  refine (StripsTo.append (.append (.append (.append (.append (.plain (by simp [hdate])) ?_) (.plain (by simp))) (.plain (by simp)))
    (.rows fun el h => ?_)) (.plain (by simp))).stripAnsi_eq
  · cases tots with
    | none => exact .plain noEsc_nil
    | some ts => exact .rows fun t ht => (StripsTo.plain (by simp)).fig _ |>.text (by simp) |>.text (htot ts rfl t ht)
  · exact (StripsTo.plain (by simp)).fig _ |>.text (by simp) |>.text (hel el h).1

end Report
end Hrano
