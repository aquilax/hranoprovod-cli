import HranoModel.Lemmas.Scan
import HranoModel.Lemmas.Classify
import HranoModel.Lemmas.DateRT
import HranoModel.Lemmas.Number
import HranoModel.Lemmas.Merge
import HranoModel.Lemmas.Walk
import HranoModel.Model.Reports
import HranoModel.Lemmas.Bytes
/-
  For C14: what `print` writes for a day is a well-formed record in the sense of `Spec/Doc.lean` (`dayRecord`), made of
  lines the scanner hands on unchanged, so the parser's behaviour on printed text is that of C04; the rest discharges
  the side conditions: the printed number literal, date texts as headings, notes of the documented forms.
-/
namespace Hrano
namespace PrintDoc
open Doc Report Num Parser Bytes

abbrev cc : UInt8 := PConst.commentChar
abbrev P : Nat := Facts.printPrecision

/-- the text of a printed note after the comment character -/
def noteText (m : MetaPair) : Bytes :=
  if !m.name.isEmpty then [32] ++ m.name ++ [58, 32] ++ m.value else [32] ++ m.value

/-- what the note reader makes of a printed note -/
def reread (m : MetaPair) : MetaPair := metadataPair (Bytes.trim PConst.trimText ([32, 32] ++ cc :: noteText m))

def entryDoc (e : Element) : EntryLine :=
  ⟨[32, 32, 45, 32], false, e.name, true, [32], fmtFixed P e.value, printedValue P e.value, []⟩

def dayRecord (l : Layout) (d : LogDay) : Record :=
  ⟨⟨false, Date.format l d.date, true, []⟩,
   d.notes.map (fun m => BodyLine.note [32, 32] (noteText m)) ++ d.elements.map (fun e => BodyLine.entry (entryDoc e))
     ++ [BodyLine.skip (.blank [])]⟩

/-- `35` is the `#` that `print_reporter.go` writes as a literal (and `getMetadataPair` strips as one): what `print` writes reads
    back only while `Facts.commentChar` is `#` -/
theorem render_note (m : MetaPair) : BodyLine.render cc (.note [32, 32] (noteText m))
    = if !m.name.isEmpty then [32, 32, 35, 32] ++ m.name ++ [58, 32] ++ m.value else [32, 32, 35, 32] ++ m.value :=
  apply_ite (fun t => BodyLine.render cc (.note [32, 32] t)) _ _ _

theorem render_entry (e : Element) :
    BodyLine.render cc (.entry (entryDoc e)) = [32, 32, 45, 32] ++ e.name ++ [58, 32] ++ fmtFixed P e.value := by
  simp [BodyLine.render, EntryLine.render, entryDoc]

theorem ite_append {α} (c : Prop) [Decidable c] (a b t : List α) : (if c then a else b) ++ t = if c then a ++ t else b ++ t :=
  apply_ite (· ++ t) c a b

theorem renderPrint_lines (cfg : RCfg) (d : LogDay) :
    renderPrint cfg d = ((Record.lines cc (dayRecord cfg.dateLayout d)).map (· ++ [10])).flatten := by
  simp [renderPrint, Record.lines, dayRecord, HeadingLine.render, render_note, render_entry,
    show BodyLine.render cc (.skip (.blank [])) = [] from rfl, Function.comp_def, ite_append]

theorem perDay_lines (cfg : RCfg) (days : List LogDay) :
    App.perDay (renderPrint cfg) days
      = ((((days.map (dayRecord cfg.dateLayout)).map (Record.lines cc)).flatten).map (· ++ [10])).flatten := by
  rw [App.perDay, funext (renderPrint_lines cfg)]
  induction days with
  | nil => rfl
  | cons d ds ih => simp only [List.map_cons, List.flatten_cons, List.map_append, List.flatten_append, ih]

theorem fmtFixed_litOK_clean (q : Q) (hq : roundedAt P q < 10 ^ (308 + P)) :
    LitOK (fmtFixed P q) (printedValue P q) ∧ Scanner.Clean (fmtFixed P q) := by
  -- every byte is a digit, the point or the sign; the last one is a digit
  have hbytes : ∀ b ∈ fmtFixed P q, PConst.blanks.contains b = false ∧ PConst.trimQty.contains b = false ∧ b ≠ 10 := by
    intro b hb
    rcases fmtFixed_bytes P q b hb with h | rfl | rfl
    · exact ⟨digit_outside h (by decide), digit_outside h (by decide), digit_ne h (by decide)⟩
    · decide
    · decide
  obtain ⟨ys, y, hlast, hy⟩ := fmtFixed_last P q (by decide)
  obtain ⟨z, zs, hz⟩ := List.exists_cons_of_ne_nil (l := fmtFixed P q) (by rw [hlast]; simp)
  refine ⟨?_, fun h => (hbytes 10 h).2.2 rfl, ?_⟩
  · exact {
      parses := parseFloat_fmtFixed P q (by decide) (by decide) hq
      noBlank := fun b hb => (hbytes b hb).1
      starts := ⟨z, zs, hz, (hbytes z (hz ▸ List.mem_cons_self)).2.1⟩
      ends := ⟨ys, y, hlast, digit_outside hy (by decide), digit_outside hy (by decide), digit_ne hy (by decide)⟩ }
  · rw [hlast, List.getLast?_concat]
    exact fun h => digit_ne hy (by decide) (Option.some.inj h)

/-- a note that survives printing and reading: the note reader maps its printed line to itself; the text has no line
    feed and does not end with a carriage return (the scanner would cut it there) -/
structure NoteOK (m : MetaPair) : Prop where
  stable : reread m = m
  noLF : ∀ b ∈ noteText m, b ≠ 10
  noCR : (noteText m).getLast? ≠ some 13

/-- a day `print` can write so that it reads back: an accepted date whose text is a legal heading, legal and distinct food
    names, amounts in float64's range, stable notes, no line longer than the scanner reads -/
structure DayOK (l : Layout) (d : LogDay) : Prop where
  date : Date.CivilOK d.date
  heading : NameOK cc (Date.format l d.date)
  headingLF : ∀ b ∈ Date.format l d.date, b ≠ 10
  names : ∀ e ∈ d.elements, NameOK cc e.name ∧ ∀ b ∈ e.name, b ≠ 10
  values : ∀ e ∈ d.elements, roundedAt P e.value < 10 ^ (308 + P)
  distinct : (Elements.names d.elements).Nodup
  notes : ∀ m ∈ d.notes, NoteOK m
  fit : ∀ ln ∈ Record.lines cc (dayRecord l d), ln.length < PConst.maxToken

/-- the amounts as printed -/
def printedDay (d : LogDay) : LogDay := { d with elements := d.elements.map (fun e => ⟨e.name, printedValue P e.value⟩) }

theorem entryDoc_wf (e : Element) (hn : NameOK cc e.name) (hv : roundedAt P e.value < 10 ^ (308 + P)) : (entryDoc e).WF cc where
  indentNonEmpty := ⟨32, [32, 45, 32], rfl⟩
  indentBytes := (by decide : ∀ b ∈ ([32, 32, 45, 32] : Bytes), indentBytes.contains b = true)
  name := hn
  blanksNonEmpty := ⟨[], 32, rfl⟩
  blanksBytes := (by decide : ∀ b ∈ ([32] : Bytes), blankBytes.contains b = true)
  trailBytes := nofun
  lit := (fmtFixed_litOK_clean e.value hv).1

theorem dayRecord_wf {l : Layout} {d : LogDay} (h : DayOK l d) : (dayRecord l d).WF cc := by
  refine ⟨⟨h.heading, nofun⟩, fun bl hbl => ?_⟩
  simp only [dayRecord, List.mem_append, List.mem_map, List.mem_singleton] at hbl
  rcases hbl with (⟨m, _, rfl⟩ | ⟨e, he, rfl⟩) | rfl
  · exact ⟨⟨32, [32], rfl, by decide⟩, by decide⟩
  · exact entryDoc_wf e (h.names e he).1 (h.values e he)
  · exact nofun

theorem filterMap_none {α β : Type} (l : List α) : l.filterMap (fun _ => (none : Option β)) = [] :=
  List.filterMap_eq_nil_iff.mpr fun _ _ => rfl

theorem dayRecord_node (l : Layout) (d : LogDay) (h : ∀ m ∈ d.notes, reread m = m) :
    Record.node cc (dayRecord l d) = ⟨Date.format l d.date, (printedDay d).elements, d.notes⟩ := by
  have hn : d.notes.map reread = d.notes := by rw [List.map_congr_left h, List.map_id']
  simp only [Record.node, dayRecord, printedDay, List.filterMap_append, List.filterMap_map, Function.comp_def, BodyLine.entryOf,
    BodyLine.noteOf, entryDoc, filterMap_none, List.filterMap_eq_map', List.filterMap_cons, List.filterMap_nil, List.nil_append,
    List.append_nil]
  exact congrArg _ hn

theorem noteText_ne_nil (m : MetaPair) : noteText m ≠ [] := by unfold noteText; split <;> simp

theorem dayRecord_clean {l : Layout} {d : LogDay} (h : DayOK l d) : ∀ ln ∈ Record.lines cc (dayRecord l d), Scanner.Clean ln := by
  intro ln hln
  simp only [Record.lines, dayRecord, List.mem_cons, List.map_append, List.map_map, List.mem_append, List.mem_map,
    Function.comp, List.map_cons, List.map_nil, List.not_mem_nil, or_false] at hln
  rcases hln with rfl | (⟨m, hm, rfl⟩ | ⟨e, he, rfl⟩) | rfl
  · have : 10 ∉ Date.format l d.date := fun hc => h.headingLF _ hc rfl
    simp [HeadingLine.render, Scanner.Clean, this]
  · have hn := h.notes m hm
    exact Scanner.Clean.append (a := [32, 32, cc]) (by decide) ⟨fun hc => hn.noLF _ hc rfl, hn.noCR⟩ (noteText_ne_nil m)
  · have : 10 ∉ e.name := fun hc => (h.names e he).2 _ hc rfl
    have hlit := fmtFixed_litOK_clean e.value (h.values e he)
    rw [render_entry]
    exact Scanner.Clean.append (by simp [this]) hlit.2 (by obtain ⟨x, xs, hx, _⟩ := hlit.1.starts; rw [hx]; exact List.cons_ne_nil _ _)
  · simp [BodyLine.render, SkipLine.render, Scanner.Clean]

theorem walk_nodes (l : Layout) (hl : Date.roundTrips l = true) (days : List LogDay) (h : ∀ d ∈ days, DayOK l d) :
    App.walk l none none none (days.map (fun d => Event.node ⟨Date.format l d.date, (printedDay d).elements, d.notes⟩))
      = (days.map printedDay, none) := by
  induction days with
  | nil => rfl
  | cons d ds ih =>
    have hd := h d List.mem_cons_self
    simp only [List.map_cons, App.walk]
    rw [Date.parse_format l d.date hl hd.date, ih (fun x hx => h x (List.mem_cons_of_mem _ hx))]
    have hnames : Elements.names (printedDay d).elements = Elements.names d.elements := by
      simp [printedDay, Elements.names, List.map_map, Function.comp]
    have hm : mergeDay (printedDay d).elements = (printedDay d).elements :=
      Elements.mergeDay_of_nodup _ (by rw [hnames]; exact hd.distinct)
    simp only [App.inInterval_none, if_true, hm]
    rfl

/-- a separator byte that may stand at the start / at the end / inside a heading -/
def litFirstOK (b : UInt8) : Bool := !PConst.trimText.contains b && b != cc
def litLastOK (b : UInt8) : Bool := !PConst.trimText.contains b && b != 13

/-- layouts whose date texts are legal headings: the first and last token are numbers or harmless separators, no
    separator is a line feed -/
def headingOK : Layout → Bool
  | [] => false
  | t :: ts =>
    (match t with | .lit b => litFirstOK b | _ => true)
    && (match (t :: ts).getLast? with | some (.lit b) => litLastOK b | _ => true)
    && (t :: ts).all (fun t => match t with | .lit b => b != 10 | _ => true)

theorem format_noLF (l : Layout) (c : Civil) (h : l.all (fun t => match t with | .lit b => b != 10 | _ => true) = true) :
    ∀ x ∈ Date.format l c, x ≠ 10 := by
  induction l with
  | nil => intro x hx; simp [Date.format] at hx
  | cons t ts ih =>
    intro x hx
    simp only [List.all_cons, Bool.and_eq_true] at h
    rw [Date.format_cons] at hx
    rcases List.mem_append.mp hx with hx | hx
    · rcases (Date.tokText_bytes c t).2 x hx with hd | rfl
      · exact digit_ne hd (by decide)
      · simpa using h.1
    · exact ih h.2 x hx

/-- **the date text of such a layout is a legal heading** (and holds no line feed) -/
theorem format_nameOK (l : Layout) (c : Civil) (h : headingOK l = true) :
    NameOK cc (Date.format l c) ∧ ∀ x ∈ Date.format l c, x ≠ 10 := by
  cases l with
  | nil => simp [headingOK] at h
  | cons t ts =>
    simp only [headingOK, Bool.and_eq_true] at h
    obtain ⟨⟨hfirst, hlast⟩, hlf⟩ := h
    refine ⟨⟨?_, ?_⟩, format_noLF (t :: ts) c hlf⟩
    · -- the first byte is the first byte of the first token
      obtain ⟨hne, hb⟩ := Date.tokText_bytes c t
      rw [Date.format_cons]
      cases htt : Date.tokText c t with
      | nil => exact absurd htt hne
      | cons x xs =>
        refine ⟨x, xs ++ _, rfl, ?_⟩
        rcases hb x (by rw [htt]; exact List.mem_cons_self) with hd | rfl
        · exact ⟨digit_outside hd (by decide), digit_ne hd (by decide)⟩
        · simpa only [litFirstOK, Bool.and_eq_true, Bool.not_eq_true', bne_iff_ne, ne_eq] using hfirst
    · -- the last byte is the last byte of the last token
      obtain ⟨ini, tl, hsplit⟩ := exists_concat_of_ne_nil (List.cons_ne_nil t ts)
      rw [hsplit] at hlast ⊢
      rw [List.getLast?_concat] at hlast
      obtain ⟨hne, hb⟩ := Date.tokText_bytes c tl
      obtain ⟨ys, y, hy⟩ := exists_concat_of_ne_nil hne
      refine ⟨Date.format ini c ++ ys, y, by rw [Date.format_append, Date.format_cons, hy]; simp [Date.format], ?_⟩
      rcases hb y (by rw [hy]; simp) with hd | rfl
      · exact ⟨digit_outside hd (by decide), digit_ne hd (by decide)⟩
      · simpa only [litLastOK, Bool.and_eq_true, Bool.not_eq_true', bne_iff_ne, ne_eq] using hlast

example : (Date.parseLayout Facts.defaultDateFormat).map headingOK = some true := by decide

/-- a piece of note text that the note reader leaves alone at both ends: it does not start with a space rune or `#`, and
    does not end with a space rune, a byte the tokenizer trims, or `#` -/
structure WordOK (s : Bytes) : Prop where
  first : ∃ x xs, s = x :: xs ∧ (∀ z ∈ spaceLead, x ≠ z) ∧ x ≠ 35
  last : ∃ ys y, s = ys ++ [y] ∧ (∀ z ∈ spaceTail, y ≠ z) ∧ PConst.trimText.contains y = false ∧ y ≠ 35

theorem trimSpace_blank_wordOK (s : Bytes) (h : WordOK s) : trimSpace (32 :: s) = s := by
  obtain ⟨x, xs, hs1, hx, _⟩ := h.first
  obtain ⟨ys, y, hs2, hy, _, _⟩ := h.last
  rw [trimSpace, trimSpaceLeft_blank]
  exact trimSpace_ends hs1 hs2 hx hy

namespace WordOK

/-- for a constant set the hypothesis is decided -/
theorem startsOutside {s : Bytes} (h : WordOK s) {cut : List UInt8} (hcut : ∀ b ∈ cut, spaceLead.contains b = true ∨ b = 35) :
    StartsOutside cut s := by
  obtain ⟨x, xs, e, hx, hx35⟩ := h.first
  refine ⟨x, xs, e, Bool.eq_false_iff.mpr fun hc => ?_⟩
  rcases hcut x (List.contains_iff_mem.mp hc) with hm | rfl
  · exact hx x (List.contains_iff_mem.mp hm) rfl
  · exact hx35 rfl

theorem endsOutside {s : Bytes} (h : WordOK s) {cut : List UInt8}
    (hcut : ∀ b ∈ cut, spaceTail.contains b = true ∨ PConst.trimText.contains b = true ∨ b = 35) : EndsOutside cut s := by
  obtain ⟨ys, y, e, hy, hyt, hy35⟩ := h.last
  refine ⟨ys, y, e, Bool.eq_false_iff.mpr fun hc => ?_⟩
  rcases hcut y (List.contains_iff_mem.mp hc) with hm | ht | rfl
  · exact hy y (List.contains_iff_mem.mp hm) rfl
  · rw [hyt] at ht; cases ht
  · exact hy35 rfl

end WordOK

theorem metadataPair_printed (body : Bytes) (hw : WordOK body) :
    metadataPair (trim PConst.trimText ([32, 32] ++ cc :: 32 :: body))
      = match splitFirst 58 body with
        | some (pre, post) => ⟨trim [35, 32, 9] pre, trimSpace post⟩
        | none => ⟨[], body⟩ := by
  have h1 : trim PConst.trimText ([32, 32] ++ (35 :: 32 :: body) ++ []) = 35 :: 32 :: body :=
    trim_core _ _ _ _ (by unfold AllIn; decide) (.nil _) ⟨35, _, rfl, by decide⟩
      (.append [35, 32] (hw.endsOutside fun b hb => .inr (.inl (List.contains_iff_mem.mpr hb))))
  have h2 : trim [35] ([35] ++ (32 :: body) ++ []) = 32 :: body :=
    trim_core _ _ _ _ (by unfold AllIn; decide) (.nil _) ⟨32, _, rfl, by decide⟩
      (.append [32] (hw.endsOutside fun b hb => .inr (.inr (List.mem_singleton.mp hb))))
  simp only [List.append_nil, List.cons_append, List.nil_append] at h1 h2
  simp only [metadataPair, List.cons_append, List.nil_append, cc, PConst.commentChar, Facts.commentChar, h1, h2,
    trimSpace_blank_wordOK body hw]
  rfl

theorem noteText_clean {m : MetaPair} {body : Bytes} (hm : noteText m = 32 :: body) (hw : WordOK body) (hlf : ∀ b ∈ body, b ≠ 10) :
    (∀ b ∈ noteText m, b ≠ 10) ∧ (noteText m).getLast? ≠ some 13 := by
  obtain ⟨ys, y, hb, hy⟩ := hw.endsOutside (cut := [13]) (by decide)
  rw [hm]
  refine ⟨List.forall_mem_cons.mpr ⟨by decide, hlf⟩, ?_⟩
  rw [hb, ← List.cons_append, List.getLast?_concat]
  intro h
  cases h
  exact absurd hy (by decide)

theorem note_text_ok (v : Bytes) (hw : WordOK v) (hc : ∀ b ∈ v, b ≠ 58) (hlf : ∀ b ∈ v, b ≠ 10) : NoteOK ⟨[], v⟩ := by
  have hcl := noteText_clean (m := ⟨[], v⟩) rfl hw hlf
  refine ⟨?_, hcl.1, hcl.2⟩
  show metadataPair (trim PConst.trimText ([32, 32] ++ cc :: 32 :: v)) = _
  rw [metadataPair_printed v hw, splitFirst_none 58 v hc]

theorem note_named_ok (n v : Bytes) (hn : WordOK n) (hv : WordOK v) (hcn : ∀ b ∈ n, b ≠ 58)
    (hlfn : ∀ b ∈ n, b ≠ 10) (hlfv : ∀ b ∈ v, b ≠ 10) : NoteOK ⟨n, v⟩ := by
  obtain ⟨x, xs, hn1, hx⟩ := hn.first
  obtain ⟨ys, y, hv2, hy⟩ := hv.last
  have hm : noteText ⟨n, v⟩ = 32 :: (n ++ 58 :: 32 :: v) := by simp [noteText, hn1]
  -- the whole text starts like the name and ends like the value
  have hw : WordOK (n ++ 58 :: 32 :: v) :=
    ⟨⟨x, xs ++ 58 :: 32 :: v, by rw [hn1]; rfl, hx⟩, ⟨n ++ 58 :: 32 :: ys, y, by rw [hv2]; simp, hy⟩⟩
  have hcl := noteText_clean hm hw
    (List.forall_mem_append.mpr ⟨hlfn, List.forall_mem_cons.mpr ⟨by decide, List.forall_mem_cons.mpr ⟨by decide, hlfv⟩⟩⟩)
  refine ⟨?_, hcl.1, hcl.2⟩
  have htn : trim [35, 32, 9] n = n := by
    rw [trim, trimLeft_startsOutside _ _ (hn.startsOutside (by decide +kernel)), trimRight_endsOutside _ _ (hn.endsOutside (by decide +kernel))]
  rw [reread, hm, metadataPair_printed _ hw, splitFirst_at 58 n (32 :: v) hcn]
  simp only [htn, trimSpace_blank_wordOK v hv]

end PrintDoc
end Hrano
