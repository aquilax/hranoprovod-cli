import HranoModel.Lemmas.Collapse
import HranoModel.Lemmas.Bytes
import HranoModel.Spec.Sums
/-
  For C03 and C07: the tree built from a log in which no food name is a path-prefix of another.  Every node with
  children carries exactly the sum of its children: the invariant is `Good S`, relative to the set `S` of all paths of
  the log; `chainOKList` is what it says of nodes with one child.  In such a log the amount at or below the path of a
  food is the sum of the quantities logged under that name (`prefixSum_eq_sumOf`).
-/
namespace Hrano
namespace Spec
open Tree

def sumTotals : List Tree → Q
  | [] => 0
  | c :: cs => c.total + sumTotals cs

theorem sumTotals_ins (sub : List Tree → List Tree) (n : Bytes) (v : Q) (cs : List Tree) :
    sumTotals (Tree.ins sub n v cs) = sumTotals cs + v := by
  fun_induction Tree.ins sub n v cs with
  | case1 => simp [sumTotals, Rat.add_comm]
  | case2 c cs h => simp only [sumTotals, total_node]; rw [Rat.add_assoc, Rat.add_comm v, ← Rat.add_assoc]
  | case3 c cs h1 h2 => simp only [sumTotals, total_node]; rw [Rat.add_comm]
  | case4 c cs h1 h2 ih => simp only [sumTotals, ih, Rat.add_assoc]

def ProperPrefix (q p : List Bytes) : Prop := ∃ r, r ≠ [] ∧ p = q ++ r

def PrefixFree (S : List (List Bytes)) : Prop := ∀ a ∈ S, ∀ b ∈ S, ¬ ProperPrefix a b

mutual
/-- relative to a set `P` of paths, `q` being the path of the parent: a leaf is the end of a path of `P`; an inner node lies
    strictly above the end of a path of `P` and carries exactly the sum of its children -/
def Good (P : List (List Bytes)) (q : List Bytes) : Tree → Prop
  | node n _ [] => (q ++ [n]) ∈ P
  | node n t (c :: cs) => t = sumTotals (c :: cs) ∧ (∃ p ∈ P, ProperPrefix (q ++ [n]) p) ∧ GoodList P (q ++ [n]) (c :: cs)
def GoodList (P : List (List Bytes)) (q : List Bytes) : List Tree → Prop
  | [] => True
  | c :: cs => Good P q c ∧ GoodList P q cs
end

theorem goodList_iff (P : List (List Bytes)) (q : List Bytes) (cs : List Tree) : GoodList P q cs ↔ ∀ c ∈ cs, Good P q c := by
  induction cs with
  | nil => simp [GoodList]
  | cons c cs ih => rw [GoodList, ih, List.forall_mem_cons]

theorem good_leaf {P : List (List Bytes)} {q : List Bytes} {n : Bytes} {t : Q} : Good P q (node n t []) ↔ (q ++ [n]) ∈ P :=
  Iff.rfl

theorem good_inner {P : List (List Bytes)} {q : List Bytes} {n : Bytes} {t : Q} {ch : List Tree} (h : ch ≠ []) :
    Good P q (node n t ch) ↔ (t = sumTotals ch ∧ (∃ p ∈ P, ProperPrefix (q ++ [n]) p) ∧ ∀ c ∈ ch, Good P (q ++ [n]) c) := by
  cases ch with
  | nil => exact absurd rfl h
  | cons c cs => rw [Good, goodList_iff]

theorem chainOK_of_good (P : List (List Bytes)) : ∀ (t : Tree) (q : List Bytes), Good P q t → chainOK t = true := by
  intro t
  induction t with
  | node n t cs ih =>
    intro q h
    cases cs with
    | nil => rfl
    | cons c cs =>
      obtain ⟨ht, -, hg⟩ := (good_inner (List.cons_ne_nil _ _)).1 h
      refine (chainOK_node ..).2 ⟨fun d hd => ?_, fun d hd => ih d hd _ (hg d hd)⟩
      obtain ⟨rfl, rfl⟩ := List.cons.inj hd
      rw [ht, sumTotals, sumTotals, Rat.add_zero]

/-- the category path of a logged name -/
def pathOf (e : Element) : List Bytes := Bytes.splitOn Tree.sep e.name

theorem properPrefix_iff {q p : List Bytes} : ProperPrefix q p ↔ q <+: p ∧ q ≠ p := by
  constructor
  · rintro ⟨r, hr, rfl⟩
    exact ⟨List.prefix_append q r, by simpa using hr⟩
  · rintro ⟨⟨r, rfl⟩, hne⟩
    exact ⟨r, by simpa using hne, rfl⟩

instance (q p : List Bytes) : Decidable (ProperPrefix q p) := decidable_of_iff _ properPrefix_iff.symm
instance (S : List (List Bytes)) : Decidable (PrefixFree S) := by unfold PrefixFree; infer_instance

/-- adding a path of a prefix-free set `S` keeps the tree good relative to `S`: the path ends at a new node or at a
    leaf, and passes through new nodes and inner nodes only -/
theorem good_addPath {S : List (List Bytes)} (hpf : PrefixFree S) (p : List Bytes) (v : Q) (q : List Bytes) (cs : List Tree)
    (hin : (q ++ p) ∈ S) (hg : ∀ c ∈ cs, Good S q c) : ∀ c ∈ addPath p v cs, Good S q c := by
  induction p generalizing q cs with
  | nil => exact hg
  | cons n ns ih =>
    cases ns with
    | nil =>
      refine forall_mem_ins (good_leaf.2 hin) (fun t ch hc => ?_) hg
      cases ch with
      | nil => exact good_leaf.2 hin
      | cons d ds =>
        -- an inner node lies above a path of `S`, of which the new path would be a proper prefix
        obtain ⟨-, ⟨p, hp, hpp⟩, -⟩ := (good_inner (List.cons_ne_nil _ _)).1 (hg _ hc)
        exact absurd hpp (hpf _ hin _ hp)
    | cons m ms =>
      have hpp : ProperPrefix (q ++ [n]) (q ++ n :: m :: ms) := ⟨m :: ms, List.cons_ne_nil _ _, List.append_cons q n _⟩
      -- the node called `n` is an inner node afterwards: its amount and the sum of its children both grow by `v`
      have hstep : ∀ t ch, t = sumTotals ch → (∀ c ∈ ch, Good S (q ++ [n]) c) →
          Good S q (node n (t + v) (addPath (m :: ms) v ch)) := by
        intro t ch ht hch
        refine (good_inner ins_ne_nil).2 ⟨?_, ⟨_, hin, hpp⟩,
          ih (q ++ [n]) ch (List.append_cons q n _ ▸ hin) hch⟩
        rw [sumTotals_ins, ht]
      refine forall_mem_ins (by simpa only [Rat.zero_add] using hstep 0 [] rfl nofun) (fun t ch hc => ?_) hg
      cases ch with
      | nil =>
        -- a leaf ends a path of `S`, which would be a proper prefix of the new path
        exact absurd hpp (hpf _ (good_leaf.1 (hg _ hc)) _ hin)
      | cons d ds =>
        obtain ⟨ht, -, hch⟩ := (good_inner (List.cons_ne_nil _ _)).1 (hg _ hc)
        exact hstep t _ ht hch

theorem build_chainOK (es : Elements) (hpf : PrefixFree (es.map pathOf)) : chainOKList (Tree.build es) = true :=
  (chainOKList_iff _).2 fun c hc => chainOK_of_good _ c [] <|
    List.foldlRecOn (motive := fun cs => ∀ c ∈ cs, Good (es.map pathOf) [] c) es Tree.addDeep (b := []) nofun
      (fun cs hg e he => good_addPath hpf (pathOf e) e.value [] cs (List.mem_map_of_mem he) hg) c hc

theorem pathOf_injective (a b : Element) (h : pathOf a = pathOf b) : a.name = b.name := by
  rw [← Bytes.join_splitOn Tree.sep a.name, ← Bytes.join_splitOn Tree.sep b.name]
  exact congrArg _ h

theorem isPrefix_iff {q p : List Bytes} : isPrefix q p = true ↔ q ≠ [] ∧ q <+: p := by
  fun_induction isPrefix q p with
  | case1 => simp
  | case2 a b bs => simp [List.cons_prefix_cons]
  | case3 a a' as b bs ih => simp [List.cons_prefix_cons, ih]
  | case4 => simp

/-- under prefix-freeness, "at or below the path of food `e`" means "food `e` itself" -/
theorem prefixSum_eq_sumOf (S : Elements) (hpf : PrefixFree (S.map pathOf)) (e : Element) (he : e ∈ S)
    (es : Elements) (hsub : ∀ x ∈ es, x ∈ S) : prefixSum Tree.sep (pathOf e) es = sumOf e.name es := by
  induction es with
  | nil => rfl
  | cons x xs ih =>
    have hiff : isPrefix (pathOf e) (pathOf x) = (x.name == e.name) := by
      rw [Bool.eq_iff_iff, isPrefix_iff, beq_iff_eq]
      refine ⟨fun ⟨_, hpre⟩ => pathOf_injective x e (Classical.not_not.1 fun hne => ?_), fun h => ?_⟩
      · exact hpf _ (List.mem_map_of_mem he) _ (List.mem_map_of_mem (hsub x List.mem_cons_self))
          (properPrefix_iff.2 ⟨hpre, fun e => hne e.symm⟩)
      · rw [pathOf, pathOf, h]
        exact ⟨Bytes.splitOn_ne_nil _ _, List.prefix_refl _⟩
    rw [prefixSum, sumOf, ih (fun y hy => hsub y (List.mem_cons_of_mem _ hy)), ← pathOf, hiff]

end Spec
end Hrano
