import HranoModel.Lemmas.ResolveImpl
/-
  The resolver refines the specification (C01, C11): the induction on the fuel (`node_ok`, with `list_ok` for the
  ingredient loop), then the outer loop over a visiting order (`go_spec`, `resolveAll_spec`).  What a successful run leaves
  (`ResolvedOn`) determines the book when the order covers it: hence order independence and the fixed point.
-/
namespace Hrano
open Spec
namespace Resolver

def doneAt (st : RState) (y : Bytes) : Option Nat := heightOf st.heights y

theorem heightOf_cons (n m : Bytes) (h : Nat) (hs : List (Bytes × Nat)) :
    heightOf ((n, h) :: hs) m = if n == m then some h else heightOf hs m := by
  unfold heightOf
  rw [List.find?_cons]
  cases n == m <;> rfl

/-- the state is consistent with the original book `B`: finished recipes hold their resolved list and
    true height, unfinished ones their original entry.  (`done` speaks of some fuel `f`, the one the recipe was finished with:
    a result does not depend on the fuel that found it, `specNode_det`.) -/
structure Inv (B : Book) (st : RState) : Prop where
  keys : st.db.keys = B.keys
  done : ∀ n h, doneAt st n = some h →
    ∃ f ps els, specNode B f n = some (h, ps) ∧ (B.lookup n).isSome ∧ st.db.lookup n = some els ∧ Resolved ps els
  todo : ∀ n, doneAt st n = none → st.db.lookup n = B.lookup n

/-- finished recipes stay finished -/
def Keeps (st st' : RState) : Prop := ∀ y h, doneAt st y = some h → doneAt st' y = some h

namespace Keeps

theorem refl (st : RState) : Keeps st st := fun _ _ h => h

theorem trans {a b c : RState} (h₁ : Keeps a b) (h₂ : Keeps b c) : Keeps a c := fun y h hy => h₂ y h (h₁ y h hy)

theorem finish {st st' : RState} {x : Bytes} {db : Book} {h : Nat} (hk : Keeps st st') (hd : doneAt st x = none) :
    Keeps st { db := db, heights := (x, h) :: st'.heights } := by
  intro y hy hdy
  rw [doneAt, heightOf_cons]
  cases hxy : x == y
  · exact hk y hy hdy
  · cases eq_of_beq hxy; cases hd.symm.trans hdy

end Keeps

namespace Inv

theorem finish {B : Book} {st : RState} {x : Bytes} {f h : Nat} {ps r : Elements} (hinv : Inv B st)
    (hx : (B.lookup x).isSome) (hsp : specNode B f x = some (h, ps)) (hr : Resolved ps r) :
    Inv B { db := st.db.set x r, heights := (x, h) :: st.heights } := by
  refine ⟨?_, fun n hn => ?_, fun n => ?_⟩
  · rw [Book.keys_set, if_pos (hinv.keys ▸ (Book.lookup_isSome_iff B x).mp hx)]; exact hinv.keys
  · rw [doneAt, heightOf_cons, Book.lookup_set]
    cases hxn : x == n
    · exact hinv.done n hn
    · rintro ⟨⟩; cases eq_of_beq hxn; exact ⟨f, ps, r, hsp, hx, rfl, hr⟩
  · rw [doneAt, heightOf_cons, Book.lookup_set]
    cases x == n
    · exact hinv.todo n
    · nofun

/-- merging ingredient `e` after its call has returned: the map holds the resolved form of its paths, or nothing -/
theorem merge {B : Book} {st : RState} {e : Element} {f h : Nat} {nel ps pe : Elements} (hinv : Inv B st)
    (hsp : specNode B f e.name = some (h, pe)) (hdone : (B.lookup e.name).isSome → doneAt st e.name = some h)
    (hacc : AccRel nel ps) : AccRel (mergeIngredient st.db nel e) (ps ++ pe.map (scale e.value)) := by
  unfold mergeIngredient
  cases hl : B.lookup e.name with
  | some els =>
    obtain ⟨_, _, r, hsp', _, hr, hres⟩ := hinv.done _ _ (hdone (by rw [hl]; rfl))
    cases specNode_det hsp' hsp
    rw [hr]
    exact hacc.sumMerge (accRel_of_resolved hres) e.value
  | none =>
    cases specNode_det hsp (specNode_undefined hl 0)
    rw [(Book.lookup_none_iff_of_keys hinv.keys _).mpr hl]
    simpa [scale, Rat.mul_one, Rat.one_mul] using hacc.sumMerge (accRel_self [⟨e.name, e.value⟩] (List.pairwise_singleton _ _)) 1

end Inv

/-- the contract of one recursive call, as the loop sees it -/
def NodeOK (B : Book) (rn : Bytes → RState → Except RErr (Nat × RState)) (sn : Bytes → Option (Nat × Elements)) : Prop :=
  ∀ x st, Inv B st →
    match sn x with
    | none => rn x st = .error .depth
    | some (h, _) => ∃ st', rn x st = .ok (h, st') ∧ Inv B st' ∧ Keeps st st' ∧ ((B.lookup x).isSome → doneAt st' x = some h)

/-- the ingredient loop against `specList`; `st₀` is the state the enclosing call started from (`Keeps` is
    transitive, so the loop carries it along) -/
theorem list_ok (B : Book) (f : Nat) (rn : Bytes → RState → Except RErr (Nat × RState)) (hnode : NodeOK B rn (specNode B f))
    (st₀ : RState) (es : List Element) (h : Nat) (nel ps : Elements) (st : RState) (hinv : Inv B st)
    (hkeep : Keeps st₀ st) (hrel : AccRel nel ps) :
    match specList (specNode B f) es (h, ps) with
    | none => resolveList rn es (h, nel, st) = .error .depth
    | some (h', ps') => ∃ nel' st', resolveList rn es (h, nel, st) = .ok (h', nel', st')
        ∧ Inv B st' ∧ Keeps st₀ st' ∧ AccRel nel' ps' := by
  induction es generalizing h nel ps st with
  | nil => exact ⟨nel, st, rfl, hinv, hkeep, hrel⟩
  | cons e es ih =>
    have hn := hnode e.name st hinv
    unfold specList resolveList
    split at hn
    · next hs => simp only [hs, hn]
    · next he pe hs =>
      obtain ⟨st1, hrn, hinv1, hkeep1, hdone1⟩ := hn
      rw [hs, hrn]
      exact ih _ _ _ st1 hinv1 (hkeep.trans hkeep1) (hinv1.merge hs hdone1 hrel)

/-- **the resolver refines the specification**, for every fuel, name and consistent state -/
theorem node_ok (B : Book) : ∀ f : Nat, NodeOK B (resolveNode f) (specNode B f) := by
  intro f
  induction f with
  | zero => intro x st _; rfl
  | succ f ih =>
    intro x st hinv
    unfold resolveNode
    cases hd : heightOf st.heights x with
    | some h0 =>
      -- already finished: the recorded height decides
      obtain ⟨f0, ps0, r0, hsp0, _, hr0, _⟩ := hinv.done x h0 hd
      rw [specNode_fuel hsp0 (f + 1), hr0]
      by_cases hge : h0 ≥ f + 1
      · simp only [if_pos hge]
      · simp only [if_neg hge]
        exact ⟨st, rfl, hinv, Keeps.refl st, fun _ => hd⟩
    | none =>
      -- not finished: the map still holds the original entry
      rw [hinv.todo x hd]
      cases hlB : B.lookup x with
      | none => rw [specNode_undefined hlB]; exact ⟨st, rfl, hinv, Keeps.refl st, nofun⟩
      | some elsB =>
        have hl := list_ok B f _ ih st elsB 0 [] [] st hinv (Keeps.refl st) (accRel_self [] List.Pairwise.nil)
        have hspecx := specNode_recipe hlB f
        rw [hspecx]
        dsimp only
        split at hl
        · rw [hl]
        · next h ps hsl =>
          obtain ⟨nel, st', hrl, hinv', hkeep', hrel'⟩ := hl
          rw [hrl]
          exact ⟨_, rfl, hinv'.finish (by rw [hlB]; rfl) (hspecx.trans hsl) hrel'.resolved, hkeep'.finish hd,
            fun _ => by simp only [doneAt, heightOf_cons, BEq.rfl, if_true]⟩

theorem inv_init (B : Book) : Inv B { db := B, heights := [] } :=
  ⟨rfl, fun _ _ hd => (by cases hd), fun _ _ => rfl⟩

theorem go_spec (B : Book) (m : Int) (order : List Bytes) (st : RState) (hinv : Inv B st) :
    ((∃ n ∈ order, specNode B m.toNat n = none) → resolveAll.go m order st = .error .depth) ∧
    ((∀ n ∈ order, specNode B m.toNat n ≠ none) →
      ∃ st', resolveAll.go m order st = .ok st'.db ∧ Inv B st' ∧ Keeps st st'
        ∧ ∀ n ∈ order, (B.lookup n).isSome → ∃ h, doneAt st' n = some h) := by
  induction order generalizing st with
  | nil => exact ⟨nofun, fun _ => ⟨st, rfl, hinv, Keeps.refl st, nofun⟩⟩
  | cons x xs ih =>
    have hn := node_ok B m.toNat x st hinv
    unfold resolveAll.go
    split at hn
    · next hs => rw [hn]; exact ⟨fun _ => rfl, fun hall => absurd hs (hall x List.mem_cons_self)⟩
    · next h ps hs =>
      obtain ⟨st1, hrn, hinv1, hkeep1, hdone1⟩ := hn
      rw [hrn]
      obtain ⟨herr, hok⟩ := ih st1 hinv1
      refine ⟨fun ⟨n, hn, hnone⟩ => herr ⟨n, ?_, hnone⟩, fun hall => ?_⟩
      · rcases List.mem_cons.mp hn with rfl | hn
        · cases hs.symm.trans hnone
        · exact hn
      · obtain ⟨st', hgo, hinv', hkeep', hdone'⟩ := hok (List.forall_mem_cons.mp hall).2
        exact ⟨st', hgo, hinv', hkeep1.trans hkeep',
          List.forall_mem_cons.mpr ⟨fun hrec => ⟨h, hkeep' _ _ (hdone1 hrec)⟩, hdone'⟩⟩

/-- what a successful run over the visiting order `ns` with fuel `f` leaves: the recipe names, and under every visited name that
    is a recipe the resolved form of its paths (a visited name need not be one: an order may list any names) -/
structure ResolvedOn (B : Book) (f : Nat) (ns : List Bytes) (B' : Book) : Prop where
  keys : B'.keys = B.keys
  entry : ∀ n ∈ ns, n ∈ B.keys → ∃ h ps els, specNode B f n = some (h, ps) ∧ B'.lookup n = some els ∧ Resolved ps els

namespace ResolvedOn

theorem unique {B B₁ B₂ : Book} {f : Nat} {o₁ o₂ : List Bytes} (hnd : B.keys.Nodup)
    (r₁ : ResolvedOn B f o₁ B₁) (r₂ : ResolvedOn B f o₂ B₂) (c₁ : ∀ n ∈ B.keys, n ∈ o₁) (c₂ : ∀ n ∈ B.keys, n ∈ o₂) :
    B₁ = B₂ :=
  Book.ext_of_lookup (r₁.keys.trans r₂.keys.symm) (r₁.keys ▸ hnd) fun n hn => by
    rw [r₁.keys] at hn
    obtain ⟨_, ps, e₁, s₁, l₁, res₁⟩ := r₁.entry n (c₁ n hn) hn
    obtain ⟨_, _, e₂, s₂, l₂, res₂⟩ := r₂.entry n (c₂ n hn) hn
    cases s₁.symm.trans s₂
    rw [l₁, l₂, resolved_unique res₁ res₂]

end ResolvedOn

/-- **`Resolve` against the specification**, for every limit and visiting order: the depth error exactly when a
    chain of `maxDepth` references starts at a visited name; otherwise the recipe names are kept and every visited
    recipe holds the resolved form of its ingredient paths -/
theorem resolveAll_spec (B : Book) (m : Int) (order : List Bytes) :
    ((∃ n ∈ order, Chain B n m.toNat) → resolveAll m B order = .error .depth) ∧
    ((∀ n ∈ order, ¬ Chain B n m.toNat) → ∃ B', resolveAll m B order = .ok B' ∧ ResolvedOn B m.toNat order B') := by
  obtain ⟨herr, hok⟩ := go_spec B m order _ (inv_init B)
  simp only [← specNode_none_iff_chain] at *
  refine ⟨herr, fun hall => ?_⟩
  obtain ⟨st', hgo, hinv, _, hdone⟩ := hok hall
  refine ⟨st'.db, hgo, hinv.keys, fun n hn hrec => ?_⟩
  obtain ⟨h, hd⟩ := hdone n hn ((Book.lookup_isSome_iff B n).mpr hrec)
  obtain ⟨f, ps, els, hsp, _, hl, hres⟩ := hinv.done n h hd
  -- the height was found with some fuel; `m.toNat` gives a result, so the same one
  obtain ⟨r, hr⟩ := Option.ne_none_iff_exists'.mp (hall n hn)
  cases specNode_det hsp hr
  exact ⟨h, ps, els, hr, hl, hres⟩

/-- the result depends on a covering visiting order only through whether it meets a chain of `maxDepth` references -/
theorem resolveAll_order (B : Book) (hnd : B.keys.Nodup) (m : Int) (o₁ o₂ : List Bytes)
    (h₁ : ∀ n ∈ B.keys, n ∈ o₁) (h₂ : ∀ n ∈ B.keys, n ∈ o₂)
    (hc : (∃ n ∈ o₁, Chain B n m.toNat) ↔ ∃ n ∈ o₂, Chain B n m.toNat) :
    resolveAll m B o₁ = resolveAll m B o₂ := by
  by_cases c : ∃ n ∈ o₁, Chain B n m.toNat
  · rw [(resolveAll_spec B m o₁).1 c, (resolveAll_spec B m o₂).1 (hc.mp c)]
  · obtain ⟨B₁, e₁, r₁⟩ := (resolveAll_spec B m o₁).2 fun n hn hch => c ⟨n, hn, hch⟩
    obtain ⟨B₂, e₂, r₂⟩ := (resolveAll_spec B m o₂).2 fun n hn hch => c (hc.mpr ⟨n, hn, hch⟩)
    rw [e₁, e₂, r₁.unique hnd r₂ h₁ h₂]

/-- **A resolved book is a fixed point**: if every recipe is a sorted duplicate-free list of names the book does
    not define, resolving it (limit at least 2, any covering order) changes nothing. -/
theorem resolveAll_resolved (B : Book) (hnd : B.keys.Nodup) (N : Nat) (hN : 2 ≤ N) (o : List Bytes)
    (hcover : ∀ n ∈ B.keys, n ∈ o)
    (hflat : ∀ n els, B.lookup n = some els → Resolved els els ∧ ∀ e ∈ els, B.lookup e.name = none) :
    resolveAll (N : Int) B o = .ok B := by
  obtain ⟨k, rfl⟩ := Nat.exists_eq_add_of_le' hN
  -- a chain of two references would pass through an ingredient that is a recipe
  have hd : ∀ n ∈ o, ¬ Chain B n (k + 2) := fun n _ hc => by
    cases hc with | step _ els e _ hl he hc1 =>
    cases hc1 with | step _ _ _ _ hl2 => cases ((hflat n els hl).2 e he).symm.trans hl2
  have hs := resolveAll_spec B ((k + 2 : Nat) : Int) o
  rw [Int.toNat_natCast] at hs
  obtain ⟨B', e, r⟩ := hs.2 hd
  rw [e, r.unique hnd ⟨rfl, fun n _ hn => ?_⟩ hcover hcover]
  obtain ⟨els, l⟩ := Option.isSome_iff_exists.mp ((Book.lookup_isSome_iff B n).mpr hn)
  -- the paths of such a recipe are its own entries
  obtain ⟨h, hsl⟩ := specList_undefined B k els 0 [] (hflat n els l).2
  exact ⟨h, els, els, (specNode_recipe l (k + 1)).trans hsl, l, (hflat n els l).1⟩

end Resolver
end Hrano
