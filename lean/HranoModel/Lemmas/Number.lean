import HranoModel.Lemmas.Fixed
import HranoModel.Lemmas.Digits
/-
  The number reader on what the fixed-point printer writes: a text `[-]D1.D2` passes every gate of `parseFloat`
  (`parseFloat_shape`), and a `p`-decimal below `10^308` lies inside float64's range.
-/
namespace Hrano
namespace Num
open Bytes

theorem lower_digit {c : UInt8} (h : isDigit c = true) : lower c = c := by
  have h1 : 48 ≤ c.toNat ∧ c.toNat ≤ 57 := by simpa [isDigit] using h
  have : ¬ (65 ≤ c.toNat ∧ c.toNat ≤ 90) := by omega
  simp [lower, this]

theorem scanMantissa_digits (ds : Bytes) (hd : ∀ c ∈ ds, isDigit c = true) (rest : Bytes) (sawDot : Bool) (acc : List Nat) (frac : Nat) :
    scanMantissa false (ds ++ rest) sawDot acc frac
      = scanMantissa false rest sawDot ((ds.map digitVal).reverse ++ acc) (if sawDot then frac + ds.length else frac) := by
  induction ds generalizing acc frac with
  | nil => simp
  | cons c ds ih =>
    have hc := hd c List.mem_cons_self
    have h95 : (c == 95) = false := beq_eq_false_iff_ne.mpr (digit_ne hc (by decide))
    have h46 : (c == 46) = false := beq_eq_false_iff_ne.mpr (digit_ne hc (by decide))
    simp only [List.cons_append]
    rw [scanMantissa]
    simp only [h95, h46, hc, Bool.false_eq_true, if_false, if_true]
    rw [ih (fun c' h => hd c' (List.mem_cons_of_mem _ h))]
    cases sawDot <;> simp [digitVal, Nat.add_assoc, Nat.add_comm 1]

theorem scanMantissa_fixed (d1 d2 : Bytes) (h1 : ∀ c ∈ d1, isDigit c = true) (h2 : ∀ c ∈ d2, isDigit c = true) :
    scanMantissa false (d1 ++ 46 :: d2) false [] 0 = ((d1 ++ d2).map digitVal, d2.length, true, []) := by
  have hdot : ∀ acc frac, scanMantissa false (46 :: d2) false acc frac = scanMantissa false (d2 ++ []) true acc frac := fun acc frac => by
    rw [scanMantissa, List.append_nil]
    rfl
  rw [scanMantissa_digits d1 h1, hdot, scanMantissa_digits d2 h2, scanMantissa]
  simp

/-- the bytes of `D1.D2` -/
def FixedText (t : Bytes) : Prop := ∀ c ∈ t, isDigit c = true ∨ c = 46

theorem FixedText.of_digits {d1 d2 : Bytes} (h1 : ∀ c ∈ d1, isDigit c = true) (h2 : ∀ c ∈ d2, isDigit c = true) :
    FixedText (d1 ++ 46 :: d2) := by
  intro c hc
  rcases List.mem_append.mp hc with hd | hd
  · exact .inl (h1 c hd)
  · rcases List.mem_cons.mp hd with rfl | hd
    · exact .inr rfl
    · exact .inl (h2 c hd)

theorem contains95_false {t : Bytes} (h : FixedText t) : t.contains 95 = false :=
  Bool.eq_false_iff.2 fun hc => (h 95 (List.contains_iff_mem.mp hc)).elim (by decide) (by decide)

theorem not_special {t : Bytes} {x : UInt8} {r : Bytes} (ht : t = x :: r) (hx : isDigit x = true) :
    (t.map lower == ofString "inf") = false ∧ (t.map lower == ofString "infinity") = false
    ∧ (t.map lower == ofString "nan") = false := by
  subst ht
  have e1 : ofString "inf" = [105, 110, 102] := by decide +kernel
  have e2 : ofString "infinity" = [105, 110, 102, 105, 110, 105, 116, 121] := by decide +kernel
  have e3 : ofString "nan" = [110, 97, 110] := by decide +kernel
  have h1 : x ≠ 105 := digit_ne hx (by decide)
  have h2 : x ≠ 110 := digit_ne hx (by decide)
  simp [e1, e2, e3, lower_digit hx, h1, h2]

theorem hexSplit_fixed {t : Bytes} (h : FixedText t) : hexSplit t = (false, t) := by
  unfold hexSplit
  split
  · next y r =>
    have : (lower y == 120) = false := by
      rcases h y (by simp) with hy | rfl
      · rw [lower_digit hy]
        exact beq_eq_false_iff_ne.mpr (digit_ne hy (by decide))
      · decide
    simp [this]
  · rfl

theorem stripSign_of_ne {x : UInt8} (h43 : x ≠ 43) (h45 : x ≠ 45) (r : Bytes) : stripSign (x :: r) = x :: r := by
  simp [stripSign, h43, h45]

theorem isNeg_of_ne {x : UInt8} (h45 : x ≠ 45) (r : Bytes) : isNeg (x :: r) = false := by
  simp [isNeg, h45]

theorem parseFloat_shape (neg : Bool) (d1 d2 : Bytes) (hne : d1 ≠ [])
    (h1 : ∀ c ∈ d1, isDigit c = true) (h2 : ∀ c ∈ d2, isDigit c = true) :
    parseFloat ((if neg then [45] else []) ++ (d1 ++ 46 :: d2)) = finish neg false (valOf d2 (valOf d1 0)) d2.length 0 := by
  obtain ⟨x, xs, rfl⟩ := List.exists_cons_of_ne_nil hne
  have hx := h1 x List.mem_cons_self
  have htext := FixedText.of_digits h1 h2
  have hscan := scanMantissa_fixed (x :: xs) d2 h1 h2
  have hhex := hexSplit_fixed htext
  have h95 := contains95_false htext
  obtain ⟨hinf, hinfinity, hnan⟩ := not_special (t := (x :: xs) ++ 46 :: d2) rfl hx
  have hexp : expPart false [] = some (0, []) := rfl
  have hdig : (((x :: xs) ++ d2).map digitVal).isEmpty = false := rfl
  generalize hs : (if neg then [45] else []) ++ ((x :: xs) ++ 46 :: d2) = s
  -- the sign in front, as the gates that look at the whole text see it
  obtain ⟨hempty, hstrip, hneg, hc95⟩ : s.isEmpty = false ∧ stripSign s = (x :: xs) ++ 46 :: d2 ∧ isNeg s = neg
      ∧ s.contains 95 = ((x :: xs) ++ 46 :: d2).contains 95 := by
    subst hs
    cases neg
    · exact ⟨rfl, stripSign_of_ne (digit_ne hx (by decide)) (digit_ne hx (by decide)) _, isNeg_of_ne (digit_ne hx (by decide)) _, rfl⟩
    · exact ⟨rfl, rfl, rfl, rfl⟩
  generalize (x :: xs) ++ 46 :: d2 = text at *
  unfold parseFloat
  -- the gates in the order of the definition
  simp only [hempty, hstrip, hneg, hinf, hinfinity, hnan, hhex, hscan, hc95, h95, hexp, Bool.false_eq_true, if_false, Bool.or_self,
    Bool.and_false, Bool.false_and, List.isEmpty_nil, Bool.not_true, hdig]
  rw [List.foldl_map, ← valOf_append]
  rfl

set_option exponentiation.threshold 2000 in
theorem overflow_big : 10 ^ 308 ≤ 2 ^ 1024 - 2 ^ 970 := by decide +kernel

theorem scale_neg (k p : Nat) (hp : 0 < p) : scale 10 k (0 - (p : Int)) = mkRat k (10 ^ p) := by
  unfold scale
  have h1 : ¬ (0 - (p : Int) ≥ 0) := by omega
  have h2 : (-(0 - (p : Int))).toNat = p := by omega
  simp only [h1, if_false, h2]
  rw [Rat.mkRat_eq_div]
  rfl

theorem pow2_sub {a b : Nat} (h : b ≤ a) : pow2 a - pow2 b = ((2 ^ a - 2 ^ b : Nat) : Q) := by
  rw [pow2, pow2, ← Rat.intCast_sub, ← Int.natCast_sub (Nat.pow_le_pow_right (by omega) h), Rat.intCast_natCast]

theorem mkRat_lt_natCast {k d B : Nat} (hd : 0 < d) (h : k < B * d) : mkRat k d < (B : Q) := by
  rwa [Rat.mkRat_eq_div, Rat.div_lt_iff (Rat.natCast_pos.mpr hd), Rat.intCast_natCast, ← Rat.natCast_mul, Rat.natCast_lt_natCast]

theorem inv_natCast_lt_mkRat {k d A : Nat} (hd : 0 < d) (hA : 0 < A) (h : d < k * A) : 1 / (A : Q) < mkRat k d := by
  -- `1 / A < k / d` cross-multiplied: `d < k · A`
  rwa [Rat.mkRat_eq_div, Rat.lt_div_iff (Rat.natCast_pos.mpr hd), Rat.div_def, Rat.one_mul, Rat.mul_comm, ← Rat.div_def,
    Rat.div_lt_iff (Rat.natCast_pos.mpr hA), Rat.intCast_natCast, ← Rat.natCast_mul, Rat.natCast_lt_natCast]

theorem fixed_lt_overflow (k p : Nat) (hk : k < 10 ^ (308 + p)) : ¬ (mkRat k (10 ^ p) ≥ overflowBound) := by
  rw [ge_iff_le, Rat.not_le, overflowBound, pow2_sub (by omega)]
  refine mkRat_lt_natCast (pow10_pos p) (Nat.lt_of_lt_of_le hk ?_)
  rw [Nat.pow_add]
  -- in two steps: elaborating `Nat.mul_le_mul_right _ overflow_big` against the goal, the unifier tries to evaluate `10 ^ 308`
  apply Nat.mul_le_mul_right
  exact overflow_big

set_option exponentiation.threshold 2000 in
theorem pow10_lt_pow2 : 10 ^ 300 < 2 ^ 1075 := by decide +kernel

/-- a non-zero `p`-decimal (`p ≤ 300`) is far above the underflow threshold -/
theorem fixed_gt_underflow (k p : Nat) (hk : 0 < k) (hp2 : p ≤ 300) : ¬ (mkRat k (10 ^ p) ≤ underflowBound) := by
  rw [Rat.not_le, underflowBound, pow2, Rat.intCast_natCast]
  -- `10 ^ p ≤ 10 ^ 300 < 2 ^ 1075 ≤ k * 2 ^ 1075`
  exact inv_natCast_lt_mkRat (pow10_pos p) (Nat.zero_lt_of_lt pow10_lt_pow2)
    (Nat.lt_of_le_of_lt (Nat.pow_le_pow_right (by omega) hp2) (Nat.lt_of_lt_of_le pow10_lt_pow2 (Nat.le_mul_of_pos_left _ hk)))

theorem finish_fixed (neg : Bool) (p k : Nat) (hp : 0 < p) (hp2 : p ≤ 300) (hk : k < 10 ^ (308 + p)) :
    finish neg false k p 0 = .value (mkRat (if neg then -(k : Int) else (k : Int)) (10 ^ p)) := by
  unfold finish
  by_cases hk0 : k = 0
  · subst hk0
    cases neg <;> exact congrArg PF.value (Rat.zero_mkRat _).symm
  · have hbeq : (k == 0) = false := beq_eq_false_iff_ne.mpr hk0
    have hlen2 : (Nat.toDigits 10 k).length ≤ 308 + p := (Nat.length_toDigits_le_iff (by decide) (Nat.add_pos_right _ hp)).mpr hk
    -- at most `308 + p` digits and `p ≤ 300`: neither clamp on the exponent fires
    have c1 : ¬ ((0 : Int) - (p : Int) + ((Nat.toDigits 10 k).length : Int) > 1200) := by omega
    have c2 : ¬ ((0 : Int) - (p : Int) + ((Nat.toDigits 10 k).length : Int) < -1500) := by omega
    simp only [hbeq, Bool.false_eq_true, if_false, c1, c2, scale_neg k p hp, fixed_lt_overflow k p hk,
      fixed_gt_underflow k p (Nat.pos_of_ne_zero hk0) hp2]
    cases neg
    · rfl
    · exact congrArg PF.value (Rat.neg_mkRat ..)

/-- **what the fixed-point printer writes, the number reader reads back exactly**: the text `[-]I.F` of
    `k / 10^p` (as printed by `%.<p>f`) is accepted with the value `±k / 10^p`.  The bounds are those of the
    program's numbers: `k / 10^p < 10^308` (a float64 is smaller than 1.8·10^308). -/
theorem parseFloat_fixedDigits (neg : Bool) (p k : Nat) (hp : 0 < p) (hp2 : p ≤ 300) (hk : k < 10 ^ (308 + p)) :
    parseFloat ((if neg then [45] else []) ++ fixedDigits p k)
      = .value (mkRat (if neg then -(k : Int) else (k : Int)) (10 ^ p)) := by
  have hmod : k % 10 ^ p < 10 ^ p := Nat.mod_lt _ (pow10_pos p)
  rw [fixedDigits_pos p k hp, parseFloat_shape neg _ _ (natDigits_ne_nil _) (natDigits_isDigit _) (natPad_isDigit p _), natPad_length p _ hp hmod,
    valOf_natPad p _ hp hmod, valOf_natDigits, Nat.zero_mul, Nat.zero_add, Nat.div_add_mod']
  exact finish_fixed neg p k hp hp2 hk

theorem parseFloat_fmtFixed (p : Nat) (q : Q) (hp : 0 < p) (hp2 : p ≤ 300) (hq : roundedAt p q < 10 ^ (308 + p)) :
    parseFloat (fmtFixed p q) = .value (printedValue p q) := by
  unfold fmtFixed printedValue
  simpa using parseFloat_fixedDigits (decide (q.num < 0)) p (roundedAt p q) hp hp2 hq

theorem fmtFixed_bytes (p : Nat) (q : Q) : ∀ b ∈ fmtFixed p q, isDigit b = true ∨ b = 46 ∨ b = 45 := by
  intro b hb
  simp only [fmtFixed, fixedDigits, List.mem_append] at hb
  rcases hb with hb | hb | hb
  · split at hb
    · exact .inr (.inr (List.mem_singleton.mp hb))
    · cases hb
  · exact .inl (natDigits_isDigit _ b hb)
  · split at hb
    · cases hb
    · rcases List.mem_cons.mp hb with rfl | hb
      · exact .inr (.inl rfl)
      · exact .inl (natPad_isDigit _ _ b hb)

theorem fmtFixed_last (p : Nat) (q : Q) (hp : 0 < p) : ∃ ys y, fmtFixed p q = ys ++ [y] ∧ isDigit y = true := by
  obtain ⟨ys, y, hy⟩ := exists_concat_of_ne_nil (natPad_ne_nil p (roundedAt p q % 10 ^ p))
  rw [fmtFixed, fixedDigits_pos p _ hp, hy, ← List.cons_append, ← List.append_assoc, ← List.append_assoc]
  exact ⟨_, y, rfl, natPad_isDigit p _ y (hy ▸ List.mem_concat_self)⟩

end Num
end Hrano
