import HranoModel.Lemmas.Scan
import HranoModel.Lemmas.Walk
import HranoModel.Model.Options
/-
  Running a command.  For C10: the read faults enter a command only through `parsed`, and a stage that succeeds has seen no
  scanner error, so it succeeds in the same way without faults.
  Names: `…_ok` says that success survives removing the read faults, `…_ok_se` (also in `Lemmas/Walk.lean`) that success
  implies no scanner error; `load_ok`, `boundsOf_ok`, `loadBook_ok` invert a successful run of the function they name.
-/
namespace Hrano
namespace App

theorem faultOf_nil (p : Bytes) : faultOf [] p = none := rfl

theorem readFile_devNull (fs : Files) : readFile fs devNull = .ok [] := by
  simp [readFile]

theorem parsed_ok {fs : Files} {rf : ReadFaults} {path : Bytes} {p : List Event × Option ScanErr}
    (h : parsed fs rf path = .ok p) (hse : p.2 = none) : parsed fs [] path = .ok p := by
  unfold parsed at h ⊢
  split at h
  · cases h
  · cases h
    rw [faultOf_nil, Parser.eventsFaulty_eq_of_ok cc _ _ hse]

theorem parsed_error (fs : Files) (rf : ReadFaults) (path : Bytes) (e : Err)
    (h : parsed fs rf path = .error e) : parsed fs [] path = .error e := by
  unfold parsed at h ⊢
  cases hr : readFile fs path with
  | error e' => rw [hr] at h; exact h
  | ok src => rw [hr] at h; cases h

/-- the stages that `run` writes out itself: go on with the parse of a file, or stop with the error of reading it -/
abbrev stage (r : Except Err (List Event × Option ScanErr)) (k : List Event × Option ScanErr → Outcome) : Outcome :=
  match r with
  | .error e => ⟨[], some e⟩
  | .ok p => k p

/-- if such a stage succeeds, and that rules out a scanner error, the read faults made no difference (the continuation
    may itself depend on the faults: `k` under them, `k'` without) -/
theorem parsed_then_ok {fs : Files} {rf : ReadFaults} {path : Bytes} {k k' : List Event × Option ScanErr → Outcome}
    (hk : ∀ p, (k p).err = none → p.2 = none ∧ k p = k' p) (h : (stage (parsed fs rf path) k).err = none) :
    stage (parsed fs rf path) k = stage (parsed fs [] path) k' := by
  unfold stage at h ⊢
  split at h
  · cases h
  · next p hp => rw [parsed_ok hp (hk p h).1]; exact (hk p h).2

theorem csvDatabaseOut_ok_se {p : List Event × Option ScanErr} (h : (csvDatabaseOut p).err = none) : p.2 = none := by
  simp only [csvDatabaseOut] at h
  split at h
  · cases h
  · exact Option.map_eq_none_iff.mp h

theorem lintOut_ok_se {silent : Bool} {p : List Event × Option ScanErr} (h : (lintOut silent p).err = none) : p.2 = none := by
  unfold lintOut at h
  split at h
  · cases h
  · assumption

theorem bookOf_ok_se {n : Int} {ord : List Bytes → List Bytes} {p : List Event × Option ScanErr} {b : Book}
    (h : bookOf n ord p = .ok b) : p.2 = none := by
  unfold bookOf at h
  split at h
  · cases h
  · next hl => exact (loadBook_ok hl).1

theorem resolvedBook_ok {o : Opts} {fs : Files} {rf : ReadFaults} {ord : List Bytes → List Bytes} {b : Book}
    (h : resolvedBook o fs rf ord = .ok b) : resolvedBook o fs [] ord = .ok b := by
  unfold resolvedBook at h ⊢
  split at h
  · cases h
  · next p hp => rw [parsed_ok hp (bookOf_ok_se h)]; exact h

theorem logDays_ok {o : Opts} {fs : Files} {rf : ReadFaults} {days : List LogDay}
    (h : logDays o fs rf = .ok (days, none)) : logDays o fs [] = .ok (days, none) := by
  unfold logDays at h ⊢
  split at h
  · cases h
  · next p hp =>
    rw [parsed_ok hp (walk_ok_se o.layout o.begin_ o.end_ p.2 p.1 (by rw [Except.ok.inj h]))]
    exact h

theorem withLog_ok {o : Opts} {fs : Files} {rf : ReadFaults} {render : List LogDay → Bytes}
    (h : (withLog o fs rf render).err = none) : withLog o fs rf render = withLog o fs [] render := by
  unfold withLog at h ⊢
  split at h
  · cases h
  · next days err hl => cases h; rw [logDays_ok hl]

theorem withBook_ok {o : Opts} {fs : Files} {rf : ReadFaults} {ord : List Bytes → List Bytes} {render : Book → Bytes}
    (h : (withBook o fs rf ord render).err = none) : withBook o fs rf ord render = withBook o fs [] ord render := by
  unfold withBook at h ⊢
  split at h
  · cases h
  · next b hb => rw [resolvedBook_ok hb]

theorem withBookAndLog_ok {o : Opts} {fs : Files} {rf : ReadFaults} {ord : List Bytes → List Bytes}
    {render : Book → List LogDay → Bytes} (h : (withBookAndLog o fs rf ord render).err = none) :
    withBookAndLog o fs rf ord render = withBookAndLog o fs [] ord render := by
  unfold withBookAndLog at h ⊢
  split at h
  · cases h
  · cases h
  · split at h
    · cases h
    · next b hb =>
      split at h
      · cases h
      · next days err hl => cases h; rw [resolvedBook_ok hb, logDays_ok hl]

/-- the visiting order reaches `run` only through `bookOf` -/
theorem run_congr_order {ord₁ ord₂ : List Bytes → List Bytes} (h : ∀ m p, bookOf m ord₁ p = bookOf m ord₂ p)
    (c : Cmd) (o : Opts) (fs : Files) (rf : ReadFaults) : run c o fs rf ord₁ = run c o fs rf ord₂ := by
  have hb : ∀ r, withBook o fs rf ord₁ r = withBook o fs rf ord₂ r := fun r => by
    unfold withBook resolvedBook; simp only [h]
  have hbl : ∀ o r, withBookAndLog o fs rf ord₁ r = withBookAndLog o fs rf ord₂ r := fun o r => by
    unfold withBookAndLog resolvedBook; simp only [h]
  cases c with
  | reg | bal | reportTotals | reportUnresolved | summary => exact hbl _ _
  | reportElementTotal | csvDatabaseResolved => exact hb _
  | _ => rfl

end App

namespace Options

theorem load_ok {s : Settings} {ld : Loaded} (h : load s = .ok ld) :
    ∃ layout now bnd cmd,
      (!s.cfgExists && isSet s.gConfig s.eConfig) = false
      ∧ Date.parseLayout (effective s).fmtRaw = some layout
      ∧ nowOf s layout = .ok now
      ∧ boundsOf s now layout = .ok bnd
      ∧ validate s (effective s) = .ok ()
      ∧ cmdOf s now layout = .ok cmd
      ∧ ld = { opts := { dbFile := (effective s).dbFile, logFile := (effective s).logFile, layout := layout,
                         maxDepth := (effective s).maxDepth, begin_ := bnd.1, end_ := bnd.2, now := now, rc := rcOf s layout },
               cmd := cmd } := by
  unfold load at h
  split at h
  · cases h
  next hc =>
  split at h
  · cases h
  next layout hl =>
  split at h
  · cases h
  next now hn =>
  split at h
  · cases h
  next bnd hb =>
  split at h
  · cases h
  next hv =>
  split at h
  · cases h
  next cmd hcmd =>
  exact ⟨layout, now, bnd, cmd, by simpa using hc, hl, hn, hb, hv, hcmd, (Except.ok.inj h).symm⟩

theorem boundsOf_ok {s : Settings} {now : Int} {l : Layout} {b e : Option Int} (h : boundsOf s now l = .ok (b, e)) :
    ∃ gb sb ge se, optBind s.gBegin (timeFromString now l) = .ok gb ∧ optBind s.sBegin (timeFromString now l) = .ok sb
      ∧ optBind s.gEnd (timeFromString now l) = .ok ge ∧ optBind s.sEnd (timeFromString now l) = .ok se
      ∧ b = innermost gb sb ∧ e = innermost ge se := by
  unfold boundsOf at h
  split at h
  · cases h; exact ⟨_, _, _, _, ‹_›, ‹_›, ‹_›, ‹_›, rfl, rfl⟩
  all_goals cases h

end Options
end Hrano
