import HranoModel.Model.Sink
/-
  For C17: bufio.Writer over a failing sink.  The sink is a function of the bytes it
  has been offered (`Sink.fed`), and after the final `Flush` so are the writer's sink and error flag.
-/
namespace Hrano
namespace Sink

theorem write_eq (c : Nat) (g p : Bytes) :
    write ⟨c, g⟩ p = (⟨c - p.length, g ++ p.take c⟩, min p.length c, decide (c < p.length)) := by
  unfold write
  split
  · next h => rw [List.take_of_length_le h, Nat.min_eq_left h, decide_eq_false (Nat.not_lt.mpr h)]
  · next h =>
    have h : c < p.length := Nat.not_le.mp h
    rw [Nat.sub_eq_zero_of_le (Nat.le_of_lt h), Nat.min_eq_right (Nat.le_of_lt h), decide_eq_true h]

/-- the sink of capacity `k` once the bytes `D` have been offered to it, in whatever pieces -/
def fed (k : Nat) (D : Bytes) : Sink := ⟨k - D.length, D.take k⟩

theorem fed_write {k : Nat} {G : Bytes} (h : G.length ≤ k) (p : Bytes) :
    (fed k G).write p = (fed k (G ++ p), min p.length (k - G.length), decide (k < (G ++ p).length)) := by
  rw [fed, write_eq, fed, List.take_append, List.length_append, Nat.sub_sub,
    decide_eq_decide.mpr (Nat.sub_lt_iff_lt_add' h)]

theorem length_lt_append {k : Nat} {G : Bytes} (h : k < G.length) (p : Bytes) : k < (G ++ p).length :=
  Nat.lt_of_lt_of_le h (List.length_append ▸ Nat.le_add_right ..)

theorem fed_append {k : Nat} {G : Bytes} (h : k < G.length) (p : Bytes) : fed k (G ++ p) = fed k G := by
  rw [fed, fed, List.take_append_of_le_length (Nat.le_of_lt h), Nat.sub_eq_zero_of_le (Nat.le_of_lt h),
    Nat.sub_eq_zero_of_le (Nat.le_of_lt (length_lt_append h p))]

theorem fed_nil (k : Nat) : fed k [] = ⟨k, []⟩ := by
  rw [fed, List.take_nil]; rfl

end Sink

namespace BufW
open Sink

/-- the bytes `G` have been handed on to the sink -/
structure Sent (k : Nat) (G : Bytes) (w : BufW) : Prop where
  sink : w.sink = fed k G
  err : w.err = decide (k < G.length)

/-- The writer has been offered `D`: a part `G` of it was handed on to the sink, and while no write has failed
    the rest is in the buffer.  After a failure `G` stays as it is while `D` goes on growing, so the sticky error
    needs no case of its own. -/
def Good (k : Nat) (D : Bytes) (w : BufW) : Prop :=
  ∃ G t, G ++ t = D ∧ Sent k G w ∧ (w.err = false → w.buf = t)

namespace Sent

theorem write {k G w} (h : Sent k G w) (he : w.err = false) (p : Bytes) :
    w.sink.write p = (fed k (G ++ p), min p.length (k - G.length), decide (k < (G ++ p).length)) := by
  rw [h.sink, fed_write (Nat.not_lt.mp (of_decide_eq_false (h.err ▸ he)))]

theorem good {k D w} (h : Sent k D w) (hb : w.err = false → w.buf = []) : Good k D w :=
  ⟨D, [], List.append_nil _, h, hb⟩

end Sent

theorem good_skip {k D w} (h : Good k D w) (he : w.err = true) (p : Bytes) : Good k (D ++ p) w := by
  obtain ⟨G, t, hD, hs, _⟩ := h
  exact ⟨G, t ++ p, by rw [← hD, List.append_assoc], hs, fun h' => by simp [he] at h'⟩

theorem good_buffer {k D w} (h : Good k D w) (he : w.err = false) (p : Bytes) :
    Good k (D ++ p) { w with buf := w.buf ++ p } := by
  obtain ⟨G, t, hD, hs, hb⟩ := h
  exact ⟨G, t ++ p, by rw [← hD, List.append_assoc], ⟨hs.sink, hs.err⟩, fun _ => by rw [hb he]⟩

theorem good_direct {k D w} (h : Good k D w) (he : w.err = false) (hb : w.buf = []) (p : Bytes) :
    Good k (D ++ p) (direct w p) := by
  obtain ⟨G, t, hD, hs, ht⟩ := h
  obtain rfl : t = [] := (ht he).symm.trans hb
  rw [List.append_nil] at hD
  subst hD
  exact Sent.good ⟨by rw [direct, hs.write he p], by rw [direct, hs.write he p]⟩ fun _ => hb

theorem good_flush {k D w} (h : Good k D w) : Good k D (flush w) ∧ ((flush w).err = false → (flush w).buf = []) := by
  unfold flush
  by_cases he : w.err = true
  · rw [if_pos he]; exact ⟨h, fun h' => by simp [he] at h'⟩
  rw [if_neg he]
  have he : w.err = false := by simpa using he
  by_cases hb : w.buf.isEmpty = true
  · rw [if_pos hb]; exact ⟨h, fun _ => by simpa using hb⟩
  rw [if_neg hb]
  obtain ⟨G, t, hD, hs, ht⟩ := h
  obtain rfl := ht he
  rw [hs.write he w.buf, hD]
  dsimp only
  by_cases hk : k < D.length
  · rw [decide_eq_true hk, if_pos rfl]
    exact ⟨Sent.good ⟨rfl, (decide_eq_true hk).symm⟩ nofun, nofun⟩
  · rw [decide_eq_false hk, if_neg Bool.false_ne_true]
    exact ⟨Sent.good ⟨rfl, he.trans (decide_eq_false hk).symm⟩ fun _ => rfl, fun _ => rfl⟩

/-- the first two arms of `Write`, which it goes through again after filling and flushing the buffer: an earlier error
    skips the chunk, a chunk that fits is buffered -/
theorem good_arms {k D w} (h : Good k D w) (p : Bytes) (w' : BufW)
    (h' : w.err = false → Good k (D ++ p) w') :
    Good k (D ++ p) (if w.err then w else if p.length ≤ w.size - w.buf.length then { w with buf := w.buf ++ p } else w') := by
  by_cases he : w.err = true
  · rw [if_pos he]; exact good_skip h he p
  rw [if_neg he]
  have he : w.err = false := by simpa using he
  by_cases h1 : p.length ≤ w.size - w.buf.length
  · rw [if_pos h1]; exact good_buffer h he p
  · rw [if_neg h1]; exact h' he

theorem write_good {k D w} (p : Bytes) (h : Good k D w) : Good k (D ++ p) (write w p) := by
  refine good_arms h p _ fun he => ?_
  by_cases hb : w.buf.isEmpty = true
  · rw [if_pos hb]; exact good_direct h he (by simpa using hb) p
  rw [if_neg hb]
  -- fill the buffer and flush; what comes out is empty or has failed, and takes the rest of `p`
  obtain ⟨hf, hb'⟩ := good_flush (good_buffer h he (p.take (w.size - w.buf.length)))
  rw [show D ++ p = D ++ p.take (w.size - w.buf.length) ++ p.drop (w.size - w.buf.length) by
    rw [List.append_assoc, List.take_append_drop]]
  exact good_arms hf _ _ fun he' => good_direct hf he' (hb' he') _

theorem foldl_write_good {k D w} (chunks : List Bytes) (h : Good k D w) : Good k (D ++ chunks.flatten) (chunks.foldl write w) := by
  induction chunks generalizing D w with
  | nil => simpa using h
  | cons c cs ih => simpa [List.append_assoc] using ih (write_good c h)

/-- after the final `Flush` the sink and the error flag are functions of the bytes the writer was offered, however
    they were cut into writes and whatever the buffer size -/
theorem runChunks_spec (size k : Nat) (chunks : List Bytes) :
    (runChunks size k chunks).sink = fed k chunks.flatten
    ∧ (runChunks size k chunks).err = decide (k < chunks.flatten.length) := by
  have h0 : Good k [] (new size k) := Sent.good ⟨(fed_nil k).symm, rfl⟩ fun _ => rfl
  obtain ⟨⟨G, t, hD, hs, ht⟩, hb⟩ := good_flush (foldl_write_good chunks h0)
  rw [List.nil_append] at hD
  show (flush _).sink = _ ∧ (flush _).err = _
  rw [hs.sink, hs.err, ← hD]
  by_cases hk : k < G.length
  · rw [fed_append hk, decide_eq_true hk, decide_eq_true (length_lt_append hk t)]
    exact ⟨rfl, rfl⟩
  · have he := hs.err.trans (decide_eq_false hk)
    rw [← ht he, hb he, List.append_nil]
    exact ⟨rfl, rfl⟩

end BufW

/-- unbuffered writes leave in the sink, and report, what a buffered writer does -/
theorem directWrites_eq (k : Nat) (chunks : List Bytes) :
    directWrites k chunks = (Sink.fed k chunks.flatten, decide (k < chunks.flatten.length)) := by
  -- the flag of the fold says whether more than `k` bytes have been offered so far
  suffices ∀ (chunks : List Bytes) (G : Bytes),
      chunks.foldl (fun (acc : Sink × Bool) p => if acc.2 then acc else
          let (s, _, e) := acc.1.write p
          (s, e)) (Sink.fed k G, decide (k < G.length))
        = (Sink.fed k (G ++ chunks.flatten), decide (k < (G ++ chunks.flatten).length)) by
    have h := this chunks []
    rwa [Sink.fed_nil] at h
  intro chunks
  induction chunks with
  | nil => intro G; rw [List.flatten_nil, List.append_nil]; rfl
  | cons c cs ih =>
    intro G
    rw [List.foldl_cons, List.flatten_cons, ← List.append_assoc, ← ih (G ++ c)]
    congr 1
    by_cases hk : k < G.length
    · rw [decide_eq_true hk, if_pos rfl, Sink.fed_append hk, decide_eq_true (Sink.length_lt_append hk c)]
    · rw [decide_eq_false hk, if_neg Bool.false_ne_true, Sink.fed_write (Nat.not_lt.mp hk)]

end Hrano
