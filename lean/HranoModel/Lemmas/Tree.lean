import HranoModel.Spec.Balance
import HranoModel.Lemmas.Bytes
/-
  A fact about trees is one induction by `Tree.induct`; the functions on lists of trees are maps of those on trees
  (`…_eq_map`), so its version for lists follows by `List.map_congr_left`.  What `Tree.ins` does to a child list is read
  through `childAt` (the child of a name, an empty node if there is none) and `forall_mem_ins`.
-/
namespace Hrano
open Tree

namespace Tree
@[simp] theorem name_node (n : Bytes) (t : Q) (cs : List Tree) : (node n t cs).name = n := rfl
@[simp] theorem total_node (n : Bytes) (t : Q) (cs : List Tree) : (node n t cs).total = t := rfl
@[simp] theorem children_node (n : Bytes) (t : Q) (cs : List Tree) : (node n t cs).children = cs := rfl

@[induction_eliminator]
theorem induct {P : Tree → Prop} (node : ∀ n t cs, (∀ c ∈ cs, P c) → P (node n t cs)) : ∀ t, P t :=
  fun t => Tree.rec (motive_1 := P) (motive_2 := fun cs => ∀ c ∈ cs, P c) node nofun
    (fun _ _ hc hcs => List.forall_mem_cons.2 ⟨hc, hcs⟩) t
end Tree

namespace Spec

theorem printChildren_eq_map (b : Bool) (l : Nat) (cs : List Tree) :
    printChildren b l cs = (cs.map (printChild b l)).flatten := by
  induction cs with
  | nil => rfl
  | cons c cs ih => exact congrArg (printChild b l c ++ ·) ih

theorem printCollapsedChildren_eq_map (l : Nat) (cs : List Tree) :
    printCollapsedChildren l cs = (cs.map fun c => printCollapsedChild [] c.total l c).flatten := by
  induction cs with
  | nil => rfl
  | cons c cs ih => exact congrArg (printCollapsedChild [] c.total l c ++ ·) ih

theorem preorderList_eq_map (l : Nat) (cs : List Tree) : preorderList l cs = (cs.map (preorder l)).flatten := by
  induction cs with
  | nil => rfl
  | cons c cs ih => exact congrArg (preorder l c ++ ·) ih

theorem printChild_plain (level : Nat) (n : Bytes) (t : Q) (cs : List Tree) :
    printChild false level (node n t cs) = row t level n ++ printChildren false (level + 1) cs := by
  unfold printChild
  split <;> simp [printChildren]

theorem printChild_true_of_not_leaf {cs : List Tree} (h : ¬ ∃ gn gt, cs = [node gn gt []]) (level : Nat) (n : Bytes) (t : Q) :
    printChild true level (node n t cs) = row t level n ++ printChildren true (level + 1) cs := by
  unfold printChild
  split
  · rw [printChildren, List.append_nil]
  · exact absurd ⟨_, _, rfl⟩ h
  · rfl

theorem printCollapsedChild_of_not_single {cs : List Tree} (h : ¬ ∃ c, cs = [c]) (pre : List Bytes) (t : Q) (level : Nat)
    (n : Bytes) (t0 : Q) :
    printCollapsedChild pre t level (node n t0 cs)
      = row t level (Bytes.join sep (pre ++ [n])) ++ printCollapsedChildren (level + 1) cs := by
  rcases cs with _ | ⟨c, _ | ⟨c2, cs⟩⟩
  · simp only [printCollapsedChild, printCollapsedChildren, List.append_nil]
  · exact absurd ⟨c, rfl⟩ h
  · simp only [printCollapsedChild, printCollapsedChildren, List.append_assoc]

theorem flatten_map_flatten {α β : Type} (f : α → List β) (L : List (List α)) :
    (L.flatten.map f).flatten = (L.map fun l => (l.map f).flatten).flatten := by
  rw [List.map_flatten, List.flatten_flatten, List.map_map]; rfl

theorem print_is_preorder (level : Nat) : ∀ t : Tree, printChild false level t = ((preorder level t).map rowOf).flatten := by
  intro t
  induction t generalizing level with
  | node n t cs ih =>
    rw [printChild_plain, preorder, printChildren_eq_map, preorderList_eq_map, List.map_cons, List.flatten_cons,
      flatten_map_flatten, List.map_map, List.map_congr_left fun c hc => ih c hc (level + 1)]
    rfl

theorem collapsed_child (pre : List Bytes) (t : Q) (level : Nat) (c : Tree) :
    printCollapsedChild pre t level c
      = row t level (Bytes.join Tree.sep (pre ++ chainNames c)) ++ printCollapsedChildren (level + 1) (chainEnd c).children := by
  induction c generalizing pre with
  | node n t0 cs ih =>
    by_cases h : ∃ c, cs = [c]
    · obtain ⟨c, rfl⟩ := h
      rw [printCollapsedChild, ih c List.mem_cons_self, chainNames, chainEnd, List.append_assoc]; rfl
    · rw [printCollapsedChild_of_not_single h, chainNames, chainEnd]
      · rfl
      · exact fun _ _ c hc => h ⟨c, (Tree.node.inj hc).2.2⟩
      · exact fun c hc => h ⟨c, hc⟩

/-- siblings strictly increasing by name, at every level -/
inductive WFList : List Tree → Prop where
  | nil : WFList []
  | cons (n : Bytes) (t : Q) (ch cs : List Tree) :
      WFList ch → WFList cs → (∀ d ∈ cs, Bytes.lt n d.name = true) → WFList (node n t ch :: cs)

theorem wfList_cons {c : Tree} {cs : List Tree} :
    WFList (c :: cs) ↔ WFList c.children ∧ WFList cs ∧ ∀ d ∈ cs, Bytes.lt c.name d.name = true := by
  constructor
  · rintro (_ | ⟨_, _, _, _, h1, h2, h3⟩)
    exact ⟨h1, h2, h3⟩
  · cases c
    exact fun ⟨h1, h2, h3⟩ => .cons _ _ _ _ h1 h2 h3

/-- `h1`, `h2` as case 3 of `Tree.ins` has them -/
theorem lt_of_le_head {n : Bytes} {c : Tree} {cs : List Tree} (hw : WFList (c :: cs)) (h1 : ¬ (c.name == n) = true)
    (h2 : Bytes.le n c.name = true) : ∀ d ∈ c :: cs, Bytes.lt n d.name = true :=
  have h := Bytes.lt_of_le_ne h2 fun e => h1 (beq_iff_eq.2 e.symm)
  List.forall_mem_cons.2 ⟨h, fun d hd => Bytes.lt_trans h ((wfList_cons.1 hw).2.2 d hd)⟩

theorem findChild_nil (m : Bytes) : findChild [] m = none := rfl

/-- the child called `n`; a missing child counts as an empty node with amount 0: that is what `totalAt` reads from it
    and what `Tree.ins` adds to -/
def childAt (cs : List Tree) (n : Bytes) : Tree := (findChild cs n).getD (node n 0 [])

theorem childAt_cons (c : Tree) (cs : List Tree) (m : Bytes) :
    childAt (c :: cs) m = if c.name == m then c else childAt cs m := by
  unfold childAt findChild
  rw [List.find?_cons]
  cases c.name == m <;> rfl

theorem childAt_of_lt {cs : List Tree} {m : Bytes} (h : ∀ d ∈ cs, Bytes.lt m d.name = true) : childAt cs m = node m 0 [] := by
  rw [childAt, findChild, List.find?_eq_none.2 fun d hd e => by simpa [← beq_iff_eq.1 e, Bytes.lt_irrefl] using h d hd]
  rfl

theorem wf_childAt {cs : List Tree} (hw : WFList cs) (n : Bytes) : WFList (childAt cs n).children := by
  induction cs with
  | nil => exact .nil
  | cons d cs ih =>
    rw [childAt_cons]
    split
    · exact (wfList_cons.1 hw).1
    · exact ih (wfList_cons.1 hw).2.1

theorem totalAt_nil (q : List Bytes) : totalAt [] q = 0 := by
  rcases q with _ | ⟨_, _ | _⟩ <;> rfl

theorem totalAt_one (cs : List Tree) (n : Bytes) : totalAt cs [n] = (childAt cs n).total := by
  rw [totalAt, childAt]; cases findChild cs n <;> rfl

theorem totalAt_cons_cons (cs : List Tree) (n m : Bytes) (rest : List Bytes) :
    totalAt cs (n :: m :: rest) = totalAt (childAt cs n).children (m :: rest) := by
  rw [totalAt, childAt]; cases findChild cs n <;> simp [totalAt_nil]

section ins
/-! `Tree.ins` by its four cases (`fun_induction`): into the empty list, onto the child of that name, in front of a
    greater sibling, or further along. -/
variable {sub : List Tree → List Tree} {n : Bytes} {v : Q}

theorem ins_ne_nil {cs : List Tree} : Tree.ins sub n v cs ≠ [] := by
  fun_cases Tree.ins sub n v cs <;> simp

theorem childAt_ins_ne {cs : List Tree} {m : Bytes} (h : n ≠ m) :
    childAt (Tree.ins sub n v cs) m = childAt cs m := by
  fun_induction Tree.ins sub n v cs with
  | case1 => simp [childAt_cons, h]
  | case2 c cs h1 => simp [childAt_cons, beq_iff_eq.1 h1, h]
  | case3 c cs h1 h2 => simp [childAt_cons, h]
  | case4 c cs h1 h2 ih => rw [childAt_cons, childAt_cons, ih]

theorem childAt_ins_self {cs : List Tree} (hw : WFList cs) :
    childAt (Tree.ins sub n v cs) n = node n ((childAt cs n).total + v) (sub (childAt cs n).children) := by
  fun_induction Tree.ins sub n v cs with
  | case1 => simp [childAt, findChild, Rat.zero_add]
  | case2 c cs h => simp [childAt_cons, beq_iff_eq.1 h]
  | case3 c cs h1 h2 =>
    -- by sortedness no sibling is called `n`
    simp [childAt_cons, childAt_of_lt (lt_of_le_head hw h1 h2), Rat.zero_add]
  | case4 c cs h1 h2 ih => simp [childAt_cons, h1, ih (wfList_cons.1 hw).2.1]

theorem forall_mem_ins {P : Tree → Prop} {cs : List Tree} (hnew : P (node n v (sub [])))
    (hupd : ∀ t ch, node n t ch ∈ cs → P (node n (t + v) (sub ch))) (hcs : ∀ d ∈ cs, P d) :
    ∀ d ∈ Tree.ins sub n v cs, P d := by
  fun_induction Tree.ins sub n v cs with
  | case1 => exact List.forall_mem_singleton.2 hnew
  | case2 c cs h =>
    cases c with
    | node m t ch =>
      obtain rfl : m = n := beq_iff_eq.1 h
      exact List.forall_mem_cons.2 ⟨hupd t ch List.mem_cons_self, (List.forall_mem_cons.1 hcs).2⟩
  | case3 c cs h1 h2 => exact List.forall_mem_cons.2 ⟨hnew, hcs⟩
  | case4 c cs h1 h2 ih =>
    exact List.forall_mem_cons.2 ⟨(List.forall_mem_cons.1 hcs).1,
      ih (fun t ch h => hupd t ch (List.mem_cons_of_mem _ h)) (List.forall_mem_cons.1 hcs).2⟩

theorem wf_ins (hsub : ∀ ch, WFList ch → WFList (sub ch)) {cs : List Tree} (hw : WFList cs) :
    WFList (Tree.ins sub n v cs) := by
  fun_induction Tree.ins sub n v cs with
  | case1 => exact wfList_cons.2 ⟨hsub [] .nil, .nil, nofun⟩
  | case2 c cs h =>
    obtain ⟨h1, h2, h3⟩ := wfList_cons.1 hw
    exact wfList_cons.2 ⟨hsub _ h1, h2, h3⟩
  | case3 c cs h1 h2 =>
    exact wfList_cons.2 ⟨hsub [] .nil, hw, lt_of_le_head hw h1 h2⟩
  | case4 c cs h1 h2 ih =>
    obtain ⟨h3, h4, h5⟩ := wfList_cons.1 hw
    exact wfList_cons.2 ⟨h3, ih h4,
      forall_mem_ins (P := (Bytes.lt c.name ·.name = true)) (Bytes.lt_of_not_le h2) (fun t ch h => h5 (node n t ch) h) h5⟩

end ins

theorem wf_addPath (p : List Bytes) (v : Q) {cs : List Tree} (hw : WFList cs) : WFList (addPath p v cs) := by
  induction p generalizing cs with
  | nil => exact hw
  | cons n ns ih => exact wf_ins (fun _ => ih) hw

theorem isPrefix_nil_right (q : List Bytes) : isPrefix q [] = false := by
  rcases q with _ | ⟨_, _ | _⟩ <;> rfl

theorem totalAt_addPath (p : List Bytes) (v : Q) {cs : List Tree} (hw : WFList cs) (q : List Bytes) :
    totalAt (addPath p v cs) q = totalAt cs q + (if isPrefix q p then v else 0) := by
  induction p generalizing cs q with
  | nil => simp [addPath, isPrefix_nil_right, Rat.add_zero]
  | cons n ns ih =>
    cases q with
    | nil => simp [totalAt, isPrefix, Rat.add_zero]
    | cons m rest =>
      rw [addPath]
      by_cases hm : n = m
      · subst hm
        cases rest with
        | nil => simp [totalAt_one, childAt_ins_self hw, isPrefix]
        | cons m' r => simp [totalAt_cons_cons, childAt_ins_self hw, isPrefix, ih (wf_childAt hw n)]
      · cases rest <;> simp [totalAt_one, totalAt_cons_cons, childAt_ins_ne hm, isPrefix, Ne.symm hm, Rat.add_zero]

theorem build_spec (es : Elements) {cs : List Tree} (hw : WFList cs) :
    WFList (es.foldl addDeep cs) ∧ ∀ q, totalAt (es.foldl addDeep cs) q = totalAt cs q + prefixSum Tree.sep q es := by
  induction es generalizing cs with
  | nil => exact ⟨hw, fun q => by simp [prefixSum, Rat.add_zero]⟩
  | cons e r ih =>
    obtain ⟨h1, h2⟩ := ih (cs := addDeep cs e) (wf_addPath _ e.value hw)
    refine ⟨h1, fun q => ?_⟩
    rw [List.foldl, h2 q, addDeep, prefixSum, totalAt_addPath _ e.value hw q, Rat.add_assoc]

theorem wf_build (es : Elements) : WFList (Tree.build es) := (build_spec es .nil).1

theorem totalAt_build (es : Elements) (q : List Bytes) : totalAt (Tree.build es) q = prefixSum Tree.sep q es := by
  rw [Tree.build, (build_spec es .nil).2 q, totalAt_nil, Rat.zero_add]

theorem totalAt_build_append (a b : Elements) (q : List Bytes) :
    totalAt (Tree.build (a ++ b)) q = totalAt (Tree.build a) q + totalAt (Tree.build b) q := by
  rw [totalAt_build b, Tree.build, List.foldl_append]
  exact (build_spec b (wf_build a)).2 q

end Spec
end Hrano
