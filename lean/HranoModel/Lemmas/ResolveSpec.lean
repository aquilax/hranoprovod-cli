import HranoModel.Spec.Resolve
/-
  The resolution specification: one invariant lemma for the ingredient loop (`specList_inv`); a result does not depend on
  the fuel that found it (`specNode_fuel`); `none` means a chain of `fuel` references (`specNode_none_iff_chain`).
-/
namespace Hrano
namespace Spec

theorem specList_inv {sn : Bytes → Option (Nat × Elements)} {I : Nat × Elements → Prop} {es : List Element}
    {acc r : Nat × Elements} (hr : specList sn es acc = some r) (h0 : I acc)
    (step : ∀ e ∈ es, ∀ v a, sn e.name = some v → I a → I (max a.1 (v.1 + 1), a.2 ++ v.2.map (scale e.value))) :
    I r := by
  fun_induction specList sn es acc with
  | case1 acc => exact Option.some.inj hr ▸ h0
  | case2 e es h ps hs => cases hr
  | case3 e es h ps he pe hs ih =>
    exact ih hr (step e List.mem_cons_self _ _ hs h0) (fun e' he' => step e' (List.mem_cons_of_mem _ he'))

/-- the loop's result depends on the results of the ingredients only, and only on those below its own height (`v.1 < r.1`) -/
theorem specList_congr {sn sn' : Bytes → Option (Nat × Elements)} {es : List Element} {acc r : Nat × Elements}
    (hr : specList sn es acc = some r)
    (h : ∀ e ∈ es, ∀ v, sn e.name = some v → v.1 < r.1 → sn' e.name = some v) : specList sn' es acc = some r := by
  fun_induction specList sn es acc with
  | case1 acc => exact hr
  | case2 e es h ps hs => cases hr
  | case3 e es a ps he pe hs ih =>
    -- the height only grows along the loop
    have hlt : he < r.1 := specList_inv (I := fun b => he < b.1) hr (Nat.le_max_right _ _)
      (fun _ _ _ _ _ hb => Nat.lt_of_lt_of_le hb (Nat.le_max_left _ _))
    rw [specList, h e List.mem_cons_self _ hs hlt]
    exact ih hr (fun e' he' => h e' (List.mem_cons_of_mem _ he'))

theorem specList_none_iff (sn : Bytes → Option (Nat × Elements)) (es : List Element) (acc : Nat × Elements) :
    specList sn es acc = none ↔ ∃ e ∈ es, sn e.name = none := by
  fun_induction specList sn es acc with
  | case1 => simp
  | case2 e es h ps hs => simp [hs]
  | case3 e es h ps he pe hs ih => simp [ih, hs]

theorem specNode_undefined {B : Book} {x : Bytes} (h : B.lookup x = none) (f : Nat) : specNode B (f + 1) x = some (0, [⟨x, 1⟩]) := by
  simp only [specNode, h]

theorem specNode_recipe {B : Book} {x : Bytes} {els : Elements} (h : B.lookup x = some els) (f : Nat) :
    specNode B (f + 1) x = specList (specNode B f) els (0, []) := by
  simp only [specNode, h]

theorem specList_undefined (B : Book) (f : Nat) (es : Elements) (h : Nat) (ps : Elements)
    (hu : ∀ e ∈ es, B.lookup e.name = none) : ∃ h', specList (specNode B (f + 1)) es (h, ps) = some (h', ps ++ es) := by
  induction es generalizing h ps with
  | nil => exact ⟨h, by rw [specList, List.append_nil]⟩
  | cons e es ih =>
    obtain ⟨h', hh⟩ := ih (max h (0 + 1)) (ps ++ [e]) fun x hx => hu x (List.mem_cons_of_mem _ hx)
    refine ⟨h', ?_⟩
    -- its one path, scaled by the quantity, is the ingredient itself
    have he : [(⟨e.name, 1⟩ : Element)].map (scale e.value) = [e] := by simp only [List.map, scale, Rat.one_mul]
    rw [specList, specNode_undefined (hu e List.mem_cons_self)]
    simp only [he, hh, List.append_assoc, List.singleton_append]

theorem specNode_stable {B : Book} {f₀ : Nat} {x : Bytes} {h : Nat} {ps : Elements} (h₀ : specNode B f₀ x = some (h, ps)) :
    h < f₀ ∧ ∀ f, h < f → specNode B f x = some (h, ps) := by
  induction f₀ generalizing x h ps with
  | zero => cases h₀
  | succ f₀ ih =>
    cases hl : B.lookup x with
    | none =>
      cases (specNode_undefined hl f₀).symm.trans h₀
      exact ⟨Nat.succ_pos _, fun f hf => by cases f with | zero => cases hf | succ f => exact specNode_undefined hl f⟩
    | some els =>
      rw [specNode_recipe hl] at h₀
      refine ⟨specList_inv (I := fun a => a.1 < f₀ + 1) h₀ (Nat.succ_pos _)
          (fun e _ v a hv ha => Nat.max_lt.mpr ⟨ha, Nat.succ_lt_succ (ih hv).1⟩), fun f hf => ?_⟩
      cases f with
      | zero => cases hf
      | succ f =>
        rw [specNode_recipe hl]
        exact specList_congr h₀ (fun e _ v hv hlt => (ih hv).2 f (Nat.lt_of_lt_of_le hlt (Nat.le_of_lt_succ hf)))

theorem specNode_fuel {B : Book} {f₀ : Nat} {x : Bytes} {h : Nat} {ps : Elements} (h₀ : specNode B f₀ x = some (h, ps))
    (f : Nat) : specNode B f x = if h ≥ f then none else some (h, ps) := by
  split
  · next hge =>
    cases hs : specNode B f x with
    | none => rfl
    | some r =>
      -- a result at `f` would be the same result, with a height below `f`
      obtain ⟨h', ps'⟩ := r
      have h1 := specNode_stable hs
      have h2 := (specNode_stable h₀).2 (max f (h + 1)) (Nat.le_max_right _ _)
      rw [h1.2 (max f (h + 1)) (Nat.lt_of_lt_of_le h1.1 (Nat.le_max_left _ _))] at h2
      cases h2
      exact absurd h1.1 (Nat.not_lt.mpr hge)
  · next hlt => exact (specNode_stable h₀).2 f (Nat.lt_of_not_ge hlt)

theorem specNode_det {B : Book} {x : Bytes} {f f' : Nat} {r r' : Nat × Elements}
    (h : specNode B f x = some r) (h' : specNode B f' x = some r') : r = r' := by
  rw [specNode_fuel h f'] at h'
  split at h'
  · cases h'
  · exact Option.some.inj h'

theorem specNode_none_iff_chain (B : Book) (f : Nat) (x : Bytes) : specNode B f x = none ↔ Chain B x f := by
  induction f generalizing x with
  | zero => exact ⟨fun _ => Chain.zero x, fun _ => rfl⟩
  | succ f ih =>
    cases hl : B.lookup x with
    | none =>
      rw [specNode_undefined hl]
      exact ⟨nofun, fun h => by cases h with | step _ _ _ _ hl' => cases hl.symm.trans hl'⟩
    | some els =>
      rw [specNode_recipe hl, specList_none_iff]
      constructor
      · rintro ⟨e, he, hn⟩
        exact Chain.step x els e f hl he ((ih e.name).mp hn)
      · intro h
        cases h with
        | step _ els' e k hl' he hc =>
          cases hl.symm.trans hl'
          exact ⟨e, he, (ih e.name).mpr hc⟩

theorem specNode_leaves {B : Book} {f : Nat} {x : Bytes} {h : Nat} {ps : Elements} (hr : specNode B f x = some (h, ps)) :
    ∀ p ∈ ps, B.lookup p.name = none := by
  induction f generalizing x h ps with
  | zero => cases hr
  | succ f ih =>
    cases hl : B.lookup x with
    | none =>
      cases (specNode_undefined hl f).symm.trans hr
      exact List.forall_mem_singleton.mpr hl
    | some els =>
      rw [specNode_recipe hl] at hr
      exact specList_inv (I := fun a => ∀ p ∈ a.2, B.lookup p.name = none) hr (fun _ hp => nomatch hp)
        (fun e _ v a hv ha => List.forall_mem_append.mpr ⟨ha, List.forall_mem_map.mpr (ih hv)⟩)

end Spec
end Hrano
