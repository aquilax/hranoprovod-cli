import HranoModel.Spec.Doc
import HranoModel.Lemmas.Bytes
/-
  How the tokenizer classifies each kind of line of a well-formed file (for C04): `classify_of_head` is the one analysis
  of `classify`; what is specific to a kind of line is its trimmed text and its first byte.
-/
namespace Hrano
namespace Doc
open Bytes Parser

/-! how the constant byte sets lie in one another (re-checked whenever `Facts.lean` is regenerated) -/
theorem blank_sub : ∀ b ∈ blankBytes, PConst.trimText.contains b = true ∧ PConst.trimQty.contains b = true
    ∧ PConst.blanks.contains b = true ∧ indentBytes.contains b = true := by decide
theorem indent_sub : ∀ b ∈ indentBytes, PConst.trimText.contains b = true := by decide
theorem indent_ne_cc : ∀ b ∈ indentBytes, b ≠ PConst.commentChar := by decide

namespace NameOK
theorem startsOutside {cc : UInt8} {n : Bytes} (h : NameOK cc n) : StartsOutside PConst.trimText n :=
  let ⟨x, xs, e, hx, _⟩ := h.starts; ⟨x, xs, e, hx⟩
theorem endsOutside {cc : UInt8} {n : Bytes} (h : NameOK cc n) : EndsOutside PConst.trimText n :=
  let ⟨xs, x, e, hx, _⟩ := h.ends; ⟨xs, x, e, hx⟩
end NameOK

theorem quote_allIn (q : Bool) : AllIn PConst.trimText (if q then [34] else []) := .opt (by decide) q
theorem colon_allIn (c : Bool) : AllIn PConst.trimText (if c then [58] else []) := .opt (by decide) c
theorem blank_allIn {s : Bytes} (h : AllIn blankBytes s) : AllIn PConst.trimText s := h.mono fun b hb => (blank_sub b hb).1

/-- `classify` looks at the first byte of the physical line and at the trimmed line -/
theorem classify_of_head {cc b0 : UInt8} {line t : Bytes} (hh : line.head? = some b0) (hcc : b0 ≠ cc)
    (ht : trim PConst.trimText line = t) (hne : t ≠ []) :
    classify cc line = if indentBytes.contains b0 then .indented (classifyIndented cc t) else .heading t := by
  cases line with
  | nil => cases hh
  | cons b rest =>
    cases hh
    have he : t.isEmpty = false := List.isEmpty_eq_false_iff.mpr hne
    have hc : (b0 == cc) = false := beq_false_of_ne hcc
    have hi : (b0 != Facts.runeSpace && b0 != Facts.runeTab && b0 != Facts.runeArrayItem) = !indentBytes.contains b0 := by
      simp only [indentBytes, Facts.runeSpace, Facts.runeTab, Facts.runeArrayItem, List.contains_cons, List.contains_nil,
        Bool.or_false, Bool.not_or, bne, Bool.and_assoc]
    simp only [classify, ht, he, hc, hi, Bool.false_eq_true, if_false]
    cases indentBytes.contains b0 <;> rfl

theorem classify_heading (h : HeadingLine) (hw : h.WF PConst.commentChar) :
    classify PConst.commentChar h.render = .heading h.name := by
  obtain ⟨x, xs, hn, hxt, hxc⟩ := hw.name.starts
  have hne : h.name ≠ [] := by rw [hn]; exact List.cons_ne_nil _ _
  have htrim : trim PConst.trimText h.render = h.name := by
    rw [HeadingLine.render, List.append_assoc, List.append_assoc]
    exact trim_core _ _ _ _ (quote_allIn _) ((quote_allIn _).append ((colon_allIn _).append (blank_allIn hw.trailBytes)))
      hw.name.startsOutside hw.name.endsOutside
  cases hq : h.quoted
  · rw [classify_of_head (b0 := x) (by rw [HeadingLine.render, hq, hn]; rfl) hxc htrim hne, outside_of_sub indent_sub hxt]; rfl
  · rw [classify_of_head (b0 := 34) (by rw [HeadingLine.render, hq]; rfl) (by decide) htrim hne, show indentBytes.contains 34 = false by decide]; rfl

theorem classify_skip (s : SkipLine) (hw : s.WF) : classify PConst.commentChar (s.render PConst.commentChar) = .skip := by
  cases s with
  | comment t => simp [SkipLine.render, classify]
  | blank b => simp [SkipLine.render, classify, trim_allIn _ b hw]

theorem classify_note (ind t : Bytes) (hind : (∃ x xs, ind = x :: xs ∧ blankBytes.contains x = true) ∧ (∀ b ∈ ind, blankBytes.contains b = true)) :
    classify PConst.commentChar (ind ++ PConst.commentChar :: t)
      = .indented (.note (metadataPair (trim PConst.trimText (ind ++ PConst.commentChar :: t)))) := by
  obtain ⟨⟨x, xs, hi, hx⟩, hall⟩ := hind
  have htrim : trim PConst.trimText (ind ++ PConst.commentChar :: t) = PConst.commentChar :: trimRight PConst.trimText t := by
    rw [trim, trimLeft_allIn _ ind _ (blank_allIn hall), trimLeft_startsOutside _ _ ⟨_, _, rfl, by decide⟩,
      trimRight_cons_stop _ _ _ (by decide)]
  obtain ⟨-, -, -, hxi⟩ := blank_sub x (List.contains_iff_mem.mp hx)
  rw [classify_of_head (b0 := x) (by simp [hi]) (indent_ne_cc x (List.contains_iff_mem.mp hxi)) rfl (by rw [htrim]; exact List.cons_ne_nil _ _), hxi, htrim]
  simp [classifyIndented]

theorem classifyIndented_entry {cc : UInt8} {core pre post name lit : Bytes} {v : Q} (hh : core.head? ≠ some cc)
    (hs : splitLastAny PConst.blanks core = some (pre, post)) (hn : trim PConst.trimText pre = name)
    (hl : trim PConst.trimQty post = lit) (hv : Num.parseFloat lit = .value v) : classifyIndented cc core = .entry name v := by
  simp only [classifyIndented, beq_false_of_ne hh, hs, hn, hl, hv, Bool.false_eq_true, if_false]

theorem classify_entry (e : EntryLine) (hw : e.WF PConst.commentChar) :
    classify PConst.commentChar e.render = .indented (.entry e.name e.value) := by
  obtain ⟨ix, ixs, hi⟩ := hw.indentNonEmpty
  obtain ⟨x, xs, hn, hxt, hxc⟩ := hw.name.starts
  obtain ⟨bs, bl, hb⟩ := hw.blanksNonEmpty
  obtain ⟨lys, ly, hl', hlyt, hlyq, _⟩ := hw.lit.ends
  let q : Bytes := if e.quoted then [34] else []
  let c : Bytes := if e.colon then [58] else []
  have hblanks : ∀ b ∈ bs ++ [bl], blankBytes.contains b = true := hb ▸ hw.blanksBytes
  have hbs : AllIn blankBytes bs := fun b h => hblanks b (List.mem_append_left _ h)
  obtain ⟨-, hblq, hblk, -⟩ := blank_sub bl (List.contains_iff_mem.mp (hblanks bl (by simp)))
  -- the trimmed line: from the name to the literal
  have hcore : trim PConst.trimText e.render = e.name ++ (q ++ c ++ bs) ++ bl :: e.lit := by
    rw [show e.render = (e.indent ++ q) ++ (e.name ++ (q ++ c ++ bs) ++ bl :: e.lit) ++ e.trail by simp [EntryLine.render, q, c, hb]]
    exact trim_core _ _ _ _ ((AllIn.mono indent_sub hw.indentBytes).append (quote_allIn _)) (blank_allIn hw.trailBytes)
      ((hw.name.startsOutside.append _).append _) (.append _ ⟨bl :: lys, ly, by rw [hl']; rfl, hlyt⟩)
  have hixi : indentBytes.contains ix = true := hw.indentBytes ix (by rw [hi]; exact List.mem_cons_self)
  rw [classify_of_head (b0 := ix) (by rw [EntryLine.render, hi]; rfl) (indent_ne_cc ix (List.contains_iff_mem.mp hixi)) hcore (by simp), hixi]
  -- the split at the last blank; the name and the literal are what remains of the two parts
  refine congrArg _ (classifyIndented_entry (by simp [hn, hxc]) (splitLastAny_at _ _ _ bl hblk hw.lit.noBlank) ?_ ?_ hw.lit.parses)
  · exact trim_core PConst.trimText [] e.name (q ++ c ++ bs) (.nil _)
      (((quote_allIn _).append (colon_allIn _)).append (blank_allIn hbs)) hw.name.startsOutside hw.name.endsOutside
  · rw [← List.append_nil (bl :: e.lit)]
    exact trim_core PConst.trimQty [bl] e.lit [] (fun b h => by cases List.mem_singleton.mp h; exact hblq)
      (.nil _) hw.lit.starts ⟨lys, ly, hl', hlyq⟩

theorem parseLines_bodyLine (fin : Bool) (b : BodyLine) (hb : b.WF PConst.commentChar) (n : Node) (ln : Nat) (rest : List Bytes) :
    parseLines PConst.commentChar fin (some n) ln (b.render PConst.commentChar :: rest)
      = parseLines PConst.commentChar fin (some { n with
          elements := n.elements ++ (b.entryOf).toList
          notes := n.notes ++ (b.noteOf PConst.commentChar).toList }) (ln + 1) rest := by
  cases b with
  | entry e => simp [parseLines, BodyLine.render, classify_entry e hb, BodyLine.entryOf, BodyLine.noteOf]
  | note ind t => simp [parseLines, BodyLine.render, classify_note ind t hb, BodyLine.entryOf, BodyLine.noteOf]
  | skip s => simp [parseLines, BodyLine.render, classify_skip s hb, BodyLine.entryOf, BodyLine.noteOf]

end Doc
end Hrano
