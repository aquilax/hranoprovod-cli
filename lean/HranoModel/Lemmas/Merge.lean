import HranoModel.Spec.Sums
import HranoModel.Spec.Resolve
import HranoModel.Lemmas.Sort
/-
  What folding `Elements.addTo` over entries computes: per name the sum of the amounts added (`Spec.sumOf`), names in order
  of first appearance.  `sumMerge`, `mergeDay`, the quantity list, the unresolved list and (through its two registers,
  `Lemmas/Accum.lean`) the accumulator are such folds.
-/
namespace Hrano
open Spec

namespace Spec

theorem sumOf_append (n : Bytes) (a b : Elements) : sumOf n (a ++ b) = sumOf n a + sumOf n b := by
  induction a with
  | nil => simp [sumOf, Rat.zero_add]
  | cons e es ih => simp [sumOf, ih, Rat.add_assoc]

theorem sumOf_filter (x : Bytes) (cs : Elements) : sumOf x (cs.filter (fun c => c.name == x)) = sumOf x cs := by
  induction cs with
  | nil => rfl
  | cons c cs ih => by_cases h : (c.name == x) = true <;> simp [h, sumOf, ih, Rat.zero_add]

theorem sumOf_perm (n : Bytes) {a b : Elements} (hp : a.Perm b) : sumOf n a = sumOf n b := by
  induction hp with
  | nil => rfl
  | cons x _ ih => simp only [sumOf, ih]
  | swap x y l => simp only [sumOf, ← Rat.add_assoc, Rat.add_comm (if y.name == n then y.value else 0)]
  | trans _ _ ih1 ih2 => exact ih1.trans ih2

end Spec

namespace Elements

theorem sumOf_zero_of_not_mem (n : Bytes) (ps : Elements) (h : n ∉ names ps) : sumOf n ps = 0 := by
  induction ps with
  | nil => rfl
  | cons p r ih =>
    simp only [names, List.map_cons, List.mem_cons, not_or] at h
    rw [sumOf, ih h.2, if_neg (fun e => h.1 (eq_of_beq e).symm), Rat.add_zero]

theorem sumOf_map_scale (q : Q) (n : Bytes) (ps : Elements) : sumOf n (ps.map (scale q)) = sumOf n ps * q := by
  induction ps with
  | nil => simp [sumOf, Rat.zero_mul]
  | cons p r ih =>
    simp only [List.map_cons, sumOf, scale, ih, Rat.add_mul]
    congr 1
    split <;> simp [Rat.zero_mul]

theorem valueAt_of_mem {a : Elements} (hnd : (names a).Nodup) {x : Element} (hx : x ∈ a) : valueAt a x.name = x.value := by
  rw [valueAt, Srt.find?_of_mem hnd hx]

theorem names_addTo (es : Elements) (n : Bytes) (v : Q) :
    names (addTo es n v) = if n ∈ names es then names es else names es ++ [n] := by
  fun_induction addTo es n v with
  | case1 => rfl
  | case2 e es n v h => simp [names, (eq_of_beq h).symm]
  | case3 e es n v h ih =>
    have hn : n ≠ e.name := fun h' => h (h' ▸ BEq.rfl)
    simp only [names, List.map_cons, List.mem_cons, hn, false_or] at ih ⊢
    rw [ih]
    exact apply_ite (List.cons e.name) _ _ _

theorem valueAt_addTo (es : Elements) (n m : Bytes) (v : Q) :
    valueAt (addTo es n v) m = valueAt es m + (if n == m then v else 0) := by
  fun_induction addTo es n v with
  | case1 n v =>
    simp only [valueAt, List.find?_cons, List.find?_nil]
    cases n == m <;> simp [Rat.zero_add]
  | case2 e es n v h =>
    cases eq_of_beq h
    simp only [valueAt, List.find?_cons]
    cases e.name == m <;> simp [Rat.add_zero]
  | case3 e es n v h ih =>
    simp only [valueAt, List.find?_cons] at ih ⊢
    cases hm : e.name == m
    · exact ih
    · have : (n == m) = false := beq_eq_false_iff_ne.mpr fun h' => h (h' ▸ hm)
      simp [this, Rat.add_zero]

theorem nodup_addTo (es : Elements) (n : Bytes) (v : Q) (h : (names es).Nodup) : (names (addTo es n v)).Nodup := by
  rw [names_addTo]
  exact Srt.nodup_append_new h n

theorem mem_names_addTo (es : Elements) (n m : Bytes) (v : Q) :
    m ∈ names (addTo es n v) ↔ m ∈ names es ∨ m = n := by
  rw [names_addTo]
  split
  · next hn => exact (or_iff_left_of_imp fun h => h ▸ hn).symm
  · simp

/-- the step of `Report.unresolvedNames` -/
theorem addTo_zero (a : Elements) (n : Bytes) : addTo a n 0 = if a.any (·.name == n) then a else a ++ [⟨n, 0⟩] := by
  induction a with
  | nil => rfl
  | cons x xs ih =>
    by_cases h : (x.name == n) = true
    · simp [addTo, h, Rat.add_zero]
    · simp only [addTo, List.any_cons, h, Bool.false_eq_true, if_false, Bool.false_or, ih]
      split <;> rfl

theorem valueAt_foldl_addTo (g : Element → Q) (es acc : Elements) (m : Bytes) :
    valueAt (es.foldl (fun a e => addTo a e.name (g e)) acc) m = valueAt acc m + sumOf m (es.map fun e => ⟨e.name, g e⟩) := by
  induction es generalizing acc with
  | nil => simp [sumOf, Rat.add_zero]
  | cons e es ih => simp only [List.foldl_cons, ih, valueAt_addTo, List.map_cons, sumOf, Rat.add_assoc]

theorem nodup_foldl_addTo (g : Element → Q) (es acc : Elements) (h : (names acc).Nodup) :
    (names (es.foldl (fun a e => addTo a e.name (g e)) acc)).Nodup :=
  List.foldlRecOn (motive := fun a => (names a).Nodup) es _ h fun a ha e _ => nodup_addTo a e.name _ ha

theorem mem_names_foldl_addTo (g : Element → Q) (es acc : Elements) (m : Bytes) :
    m ∈ names (es.foldl (fun a e => addTo a e.name (g e)) acc) ↔ m ∈ names acc ∨ m ∈ names es := by
  induction es generalizing acc with
  | nil => simp [names]
  | cons e es ih =>
    rw [List.foldl_cons, ih, mem_names_addTo]
    simp [names, or_assoc]

theorem names_foldl_addTo (g : Element → Q) (es acc : Elements) :
    names (es.foldl (fun a e => addTo a e.name (g e)) acc)
      = names acc ++ (distinctNames es).filter (fun n => !(names acc).contains n) := by
  induction es generalizing acc with
  | nil => simp [distinctNames]
  | cons e es ih =>
    -- a name is new after `e` iff it was new before and is not `e.name`
    have hnew : ∀ x, (!(names (addTo acc e.name (g e))).contains x) = (!(names acc).contains x && x != e.name) := fun x => by
      rw [Bool.eq_iff_iff]
      simp [mem_names_addTo]
    rw [List.foldl_cons, ih, distinctNames, List.filter_cons, List.filter_filter, List.filter_congr fun x _ => hnew x, names_addTo]
    by_cases hm : e.name ∈ names acc <;> simp [hm]

theorem valueAt_sumMerge (acc left : Elements) (mult : Q) (m : Bytes) :
    valueAt (sumMerge acc left mult) m = valueAt acc m + sumOf m left * mult := by
  rw [← sumOf_map_scale]
  exact valueAt_foldl_addTo (·.value * mult) left acc m

theorem nodup_sumMerge (acc left : Elements) (mult : Q) (h : (names acc).Nodup) : (names (sumMerge acc left mult)).Nodup :=
  nodup_foldl_addTo _ left acc h

theorem mem_names_sumMerge (acc left : Elements) (mult : Q) (m : Bytes) :
    m ∈ names (sumMerge acc left mult) ↔ m ∈ names acc ∨ m ∈ names left :=
  mem_names_foldl_addTo _ left acc m

theorem addTo_fresh (acc : Elements) (n : Bytes) (v : Q) (h : n ∉ names acc) : addTo acc n v = acc ++ [⟨n, v⟩] := by
  induction acc with
  | nil => rfl
  | cons e es ih =>
    simp only [names, List.map_cons, List.mem_cons, not_or] at h
    have hne : (e.name == n) = false := by simpa using fun h' => h.1 (Eq.symm h')
    simp only [addTo, hne, Bool.false_eq_true, if_false, List.cons_append]
    rw [ih h.2]

theorem foldl_addTo_of_nodup (es acc : Elements) (h : (names (acc ++ es)).Nodup) :
    es.foldl (fun a e => addTo a e.name e.value) acc = acc ++ es := by
  induction es generalizing acc with
  | nil => simp
  | cons e es ih =>
    have hfresh : e.name ∉ names acc := fun hm => by
      simp only [names, List.map_append, List.map_cons] at h
      exact (List.nodup_append.mp h).2.2 _ hm _ List.mem_cons_self rfl
    rw [List.foldl_cons, addTo_fresh acc e.name e.value hfresh, ih (acc ++ [e]) (by simpa using h)]
    simp

theorem mergeDay_of_nodup (es : Elements) (h : (names es).Nodup) : mergeDay es = es := by
  simpa [mergeDay] using foldl_addTo_of_nodup es [] (by simpa using h)

end Elements

theorem mergeDay_value (es : Elements) (n : Bytes) : Elements.valueAt (mergeDay es) n = sumOf n es := by
  rw [mergeDay, Elements.valueAt_foldl_addTo, List.map_id']
  exact Rat.zero_add _

namespace Elements

theorem sumOf_eq_valueAt_of_nodup (es : Elements) (hnd : (names es).Nodup) (n : Bytes) : sumOf n es = valueAt es n := by
  rw [← mergeDay_value, mergeDay_of_nodup es hnd]

theorem valueAt_perm {a b : Elements} (hp : a.Perm b) (hnd : (names a).Nodup) (n : Bytes) : valueAt a n = valueAt b n := by
  rw [← sumOf_eq_valueAt_of_nodup a hnd, ← sumOf_eq_valueAt_of_nodup b ((hp.map _).nodup_iff.mp hnd), sumOf_perm n hp]

end Elements

theorem mergeDay_nodup (es : Elements) : (Elements.names (mergeDay es)).Nodup :=
  Elements.nodup_foldl_addTo _ es [] List.nodup_nil

theorem mergeDay_mem (es : Elements) (n : Bytes) : n ∈ Elements.names (mergeDay es) ↔ n ∈ Elements.names es := by
  rw [mergeDay, Elements.mem_names_foldl_addTo]
  simp [Elements.names]

theorem mergeDay_names (es : Elements) : Elements.names (mergeDay es) = distinctNames es :=
  (Elements.names_foldl_addTo (·.value) es []).trans (List.filter_eq_self.mpr fun _ _ => rfl)

namespace Report

theorem unresolvedNames_eq (db : Book) (es : Elements) :
    unresolvedNames db es = (es.filter fun e => (db.lookup e.name).isNone).foldl (fun a e => Elements.addTo a e.name 0) [] := by
  rw [List.foldl_filter]
  unfold unresolvedNames
  congr 1
  funext a e
  cases db.lookup e.name <;> simp [Elements.addTo_zero]

end Report
end Hrano
