import HranoModel.Lemmas.DayCount
import HranoModel.Facts
import HranoModel.Lemmas.Digits
/-
  Every token of a layout reads back the text it wrote (`parseToks_tok`): on digit bytes the readers compute `valOf`, and
  a written number is digit bytes with the number as their value.
-/
namespace Hrano
namespace Date
open Bytes Num

/-- a civil date the library accepts, with a four-digit year -/
structure CivilOK (c : Civil) : Prop where
  year : c.y < 10000
  monthLo : 1 ≤ c.m
  monthHi : c.m ≤ 12
  dayLo : 1 ≤ c.d
  dayHi : c.d ≤ daysIn c.m c.y

/-- a token that is written with a variable number of digits must be followed by a separator (or end the layout),
    otherwise the text is ambiguous -/
def sepFollows : Layout → Bool
  | [] => true
  | .lit b :: _ => !isDigit b
  | _ => false

def unambiguous : Layout → Bool
  | [] => true
  | .month1 :: ts => sepFollows ts && unambiguous ts
  | .day1 :: ts => sepFollows ts && unambiguous ts
  | _ :: ts => unambiguous ts

def hasYear (l : Layout) : Bool := l.any (· == .year4)
def hasMonth (l : Layout) : Bool := l.any (fun t => t == .month2 || t == .month1)
def hasDay (l : Layout) : Bool := l.any (fun t => t == .day2 || t == .day1)

/-- layouts whose texts determine the date: every field present, no variable-width number runs into the next digit -/
def roundTrips (l : Layout) : Bool := hasYear l && hasMonth l && hasDay l && unambiguous l

/-- the fields a layout sets -/
def upd (l : Layout) (c : Civil) (p : Partial) : Partial :=
  { y := if hasYear l then c.y else p.y, m := if hasMonth l then c.m else p.m, d := if hasDay l then c.d else p.d }

/-- on two digit bytes, or on one with no digit behind it, the number reader computes `valOf` -/
theorem getnum_digits (ds : Bytes) (h0 : ds ≠ []) (hl : ds.length ≤ 2) (hd : ∀ x ∈ ds, isDigit x = true) (fixed : Bool) (rest : Bytes)
    (hr : ds.length = 1 → fixed = false ∧ ∀ x xs, rest = x :: xs → isDigit x = false) :
    getnum (ds ++ rest) fixed = some (valOf ds 0, rest) := by
  match ds, hl with
  | [], _ => exact absurd rfl h0
  | [a, b], _ => simp [getnum, hd a, hd b, valOf, digitVal]
  | [a], _ =>
    obtain ⟨rfl, hx⟩ := hr rfl
    cases rest with
    | nil => simp [getnum, hd a, valOf, digitVal]
    | cons x xs => simp [getnum, hd a, hx x xs rfl, valOf, digitVal]

theorem parseToks_year_digits (ts : Layout) (ds : Bytes) (hl : ds.length = 4) (hd : ∀ x ∈ ds, isDigit x = true) (rest : Bytes) (p : Partial) :
    parseToks (.year4 :: ts) (ds ++ rest) p = parseToks ts rest { p with y := valOf ds 0 } := by
  match ds, hl, hd with
  | [a, b, c, d], _, hd =>
    have e : valOf [a, b, c, d] 0 = digitVal a * 1000 + digitVal b * 100 + digitVal c * 10 + digitVal d := by
      show (((0 * 10 + _) * 10 + _) * 10 + _) * 10 + _ = _
      omega
    simp [parseToks, hd, e, digitVal]

theorem getnum_two (n : Nat) (h : n < 100) (fixed : Bool) (rest : Bytes) :
    getnum (natPad 2 n ++ rest) fixed = some (n, rest) := by
  obtain ⟨hl, hd, hv⟩ := natPad_spec 2 n (by decide) h
  rw [getnum_digits _ (natPad_ne_nil 2 n) (Nat.le_of_eq hl) hd fixed rest (fun h1 => absurd (hl.symm.trans h1) (by decide)), hv]

theorem parseToks_year (ts : Layout) (y : Nat) (hy : y < 10000) (rest : Bytes) (p : Partial) :
    parseToks (.year4 :: ts) (natPad 4 y ++ rest) p = parseToks ts rest { p with y := y } := by
  obtain ⟨hl, hd, hv⟩ := natPad_spec 4 y (by decide) hy
  rw [parseToks_year_digits ts _ hl hd, hv]

theorem getnum_var (n : Nat) (h : n < 100) (rest : Bytes) (hr : ∀ x xs, rest = x :: xs → isDigit x = false) :
    getnum (natDigits n ++ rest) false = some (n, rest) := by
  rw [getnum_digits _ (natDigits_ne_nil n) (natDigits_length_le n 2 (by decide) h) (natDigits_isDigit n) false rest fun _ => ⟨rfl, hr⟩,
    valOf_natDigits, Nat.zero_mul, Nat.zero_add]

/-- what `format` writes for one token of the layout -/
def tokText (c : Civil) : LTok → Bytes
  | .year4 => natPad 4 c.y
  | .month2 => natPad 2 c.m
  | .month1 => natDigits c.m
  | .day2 => natPad 2 c.d
  | .day1 => natDigits c.d
  | .lit b => [b]

/-- what reading that text back stores: the field of `c` the token stands for -/
def setTok (c : Civil) (p : Partial) : LTok → Partial
  | .year4 => { p with y := c.y }
  | .month2 | .month1 => { p with m := c.m }
  | .day2 | .day1 => { p with d := c.d }
  | .lit _ => p

theorem format_cons (t : LTok) (ts : Layout) (c : Civil) : format (t :: ts) c = tokText c t ++ format ts c := by
  cases t <;> rfl

theorem upd_cons (t : LTok) (ts : Layout) (c : Civil) (p : Partial) : upd ts c (setTok c p t) = upd (t :: ts) c p := by
  unfold upd hasYear hasMonth hasDay
  rw [List.any_cons, List.any_cons, List.any_cons]
  -- the field of `t` is set on both sides, whatever `ts` sets (`ite_self`); the other two fields agree by computation
  cases t <;> simp only [setTok, ite_self] <;> rfl

theorem parseToks_tok (c : Civil) (hc : CivilOK c) (t : LTok) (ts : Layout) (rest : Bytes) (p : Partial)
    (hr : (t = .month1 ∨ t = .day1) → ∀ x xs, rest = x :: xs → isDigit x = false) :
    parseToks (t :: ts) (tokText c t ++ rest) p = parseToks ts rest (setTok c p t) := by
  have hm : c.m < 100 := Nat.lt_of_le_of_lt hc.monthHi (by decide)
  have hd : c.d < 100 := Nat.lt_of_le_of_lt (Nat.le_trans hc.dayHi (daysIn_range _ _).2) (by decide)
  cases t with
  | year4 => exact parseToks_year ts c.y hc.year rest p
  | month2 => rw [tokText, parseToks, getnum_two c.m hm]; rfl
  | month1 => rw [tokText, parseToks, getnum_var c.m hm _ (hr (Or.inl rfl))]; rfl
  | day2 => rw [tokText, parseToks, getnum_two c.d hd]; rfl
  | day1 => rw [tokText, parseToks, getnum_var c.d hd _ (hr (Or.inr rfl))]; rfl
  | lit b => simp only [tokText, List.cons_append, List.nil_append, parseToks, beq_self_eq_true, if_true, setTok]

theorem format_starts (ts : Layout) (c : Civil) : sepFollows ts = true → ∀ x xs, format ts c = x :: xs → isDigit x = false := by
  fun_cases sepFollows ts <;> intro h x xs hx
  · cases hx
  · cases hx; simpa using h
  · cases h

theorem unambiguous_cons (t : LTok) (ts : Layout) (h : unambiguous (t :: ts) = true) :
    unambiguous ts = true ∧ ((t = .month1 ∨ t = .day1) → sepFollows ts = true) := by
  cases t <;> simp_all [unambiguous]

theorem parseToks_format (c : Civil) (hc : CivilOK c) (l : Layout) (p : Partial) (hu : unambiguous l = true) :
    parseToks l (format l c) p = some (upd l c p) := by
  induction l generalizing p with
  | nil => simp [format, parseToks, upd, hasYear, hasMonth, hasDay]
  | cons t ts ih =>
    obtain ⟨hu', hs⟩ := unambiguous_cons t ts hu
    rw [format_cons, parseToks_tok c hc t ts _ p (fun h => format_starts ts c (hs h)), ih _ hu', upd_cons]

/-- **a date written in a layout is read back by the same layout**, for every accepted civil date with a four-digit
    year and every layout that names year, month and day and keeps variable-width numbers apart from the next digit -/
theorem parse_format (l : Layout) (c : Civil) (hl : roundTrips l = true) (hc : CivilOK c) : parse l (format l c) = some c := by
  simp only [roundTrips, Bool.and_eq_true] at hl
  obtain ⟨⟨⟨hy, hm⟩, hd⟩, hu⟩ := hl
  rw [parse, parseToks_format c hc l {} hu]
  simp only [upd, hy, hm, hd, if_true]
  rw [if_neg (by simp [Nat.not_lt.mpr hc.monthLo, Nat.not_lt.mpr hc.monthHi]),
    if_neg (by simp [Nat.not_lt.mpr hc.dayLo, Nat.not_lt.mpr hc.dayHi])]

theorem parse_valid (l : Layout) (s : Bytes) (c : Civil) (h : parse l s = some c) : Valid c := by
  unfold parse at h
  split at h
  · cases h
  · split at h
    · cases h
    · split at h
      · cases h
      · next h1 h2 =>
        cases h
        simp only [Bool.or_eq_true, decide_eq_true_eq, not_or, Nat.not_lt] at h1 h2
        exact ⟨h1.1, h1.2, h2.1, h2.2⟩

theorem format_append (a b : Layout) (c : Civil) : format (a ++ b) c = format a c ++ format b c := by
  induction a with
  | nil => simp [format]
  | cons t ts ih => rw [List.cons_append, format_cons, format_cons, ih, List.append_assoc]

theorem tokText_bytes (c : Civil) (t : LTok) : tokText c t ≠ [] ∧ ∀ x ∈ tokText c t, Bytes.isDigit x = true ∨ t = .lit x := by
  cases t with
  | lit b => exact ⟨List.cons_ne_nil _ _, fun x hx => .inr (by rw [List.mem_singleton.mp hx])⟩
  | year4 | month2 | day2 => exact ⟨natPad_ne_nil _ _, fun x hx => .inl (natPad_isDigit _ _ x hx)⟩
  | month1 | day1 => exact ⟨natDigits_ne_nil _, fun x hx => .inl (natDigits_isDigit _ x hx)⟩

/-- the default layout and the CSV layout qualify -/
example : (parseLayout Facts.defaultDateFormat).map roundTrips = some true := by decide
example : (parseLayout Facts.csvTimeFormat).map roundTrips = some true := by decide
example : parse [.day1, .lit 46, .month1, .lit 46, .year4] (format [.day1, .lit 46, .month1, .lit 46, .year4] ⟨2021, 3, 7⟩) = some ⟨2021, 3, 7⟩ := by
  decide +kernel

end Date
end Hrano
