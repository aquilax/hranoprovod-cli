import HranoModel.Model.App
/-
  The consumers of a parse: `App.walk` (WalkNodesInStream) and `App.loadBook`.
-/
namespace Hrano
namespace App

/-- does the record belong to the period?  (records whose heading is not a date are kept: they stop the walk) -/
def inPeriod (l : Layout) (b e : Option Int) : Event → Bool
  | .node n => match Date.parse l n.header with
    | some c => inInterval b e (Date.instant c)
    | none => true
  | .error _ => true

theorem inInterval_none (t : Int) : inInterval none none t = true := rfl

theorem inInterval_some (b e t : Int) : inInterval (some b) (some e) t = true ↔ b ≤ t ∧ t ≤ e := by
  simp [inInterval]

theorem walk_filter (l : Layout) (b e : Option Int) (se : Option ScanErr) (evs : List Event) :
    walk l b e se evs = walk l none none se (evs.filter (inPeriod l b e)) := by
  -- the cases of `walk`: no event, an error, a heading that is no date, a dated record
  fun_induction walk l b e se evs
  case case1 => rfl
  case case2 => rfl
  case case3 n rest hp => simp [inPeriod, hp, walk]
  case case4 n rest c hp ds err hw ih =>
    cases hin : inInterval b e (Date.instant c) <;> simp [inPeriod, hp, hin, walk, ← ih, hw, inInterval_none]

theorem walk_append (l : Layout) (b e : Option Int) (se : Option ScanErr) (evs₁ evs₂ : List Event) :
    walk l b e se (evs₁ ++ evs₂) =
      (match walk l b e none evs₁ with
       | (d₁, none) => ((d₁ ++ (walk l b e se evs₂).1), (walk l b e se evs₂).2)
       | (d₁, some err) => (d₁, some err)) := by
  fun_induction walk l b e none evs₁
  case case1 => rfl
  case case2 => rfl
  case case3 n rest hp => simp [walk, hp]
  case case4 n rest c hp ds err hw ih =>
    simp only [List.cons_append, walk, hp, ih, hw]
    cases err <;> cases inInterval b e (Date.instant c) <;> rfl

theorem walk_se (l : Layout) (b e : Option Int) (se : Option ScanErr) (evs : List Event) :
    walk l b e se evs = ((walk l b e none evs).1, (walk l b e none evs).2.or (se.map Err.scan)) := by
  rw [← List.append_nil evs, walk_append, List.append_nil]
  rcases walk l b e none evs with ⟨d, _ | err⟩ <;> simp [walk]

theorem walk_ok_se (l : Layout) (b e : Option Int) (se : Option ScanErr) (evs : List Event)
    (h : (walk l b e se evs).2 = none) : se = none := by
  rw [walk_se] at h
  cases se
  · rfl
  · cases h' : (walk l b e none evs).2 <;> simp [h'] at h

theorem loadBook_eq (evs : List Event) (se : Option ScanErr) :
    loadBook evs se = match firstErr evs, se with
      | some e, _ => .error (.parse e)
      | none, some e => .error (.scan e)
      | none, none => .ok (Book.ofNodes (evs.filterMap fun ev => match ev with | .node n => some n | .error _ => none)) := by
  suffices ∀ acc, loadBook.go se evs acc = match firstErr evs, se with
      | some e, _ => .error (.parse e)
      | none, some e => .error (.scan e)
      | none, none => .ok (Book.ofNodes (acc.reverse ++ evs.filterMap fun ev => match ev with | .node n => some n | .error _ => none)) from
    this []
  induction evs with
  | nil =>
    intro acc
    cases se with
    | some e => rfl
    | none => exact congrArg (fun l => Except.ok (Book.ofNodes l)) (List.append_nil _).symm
  | cons ev r ih =>
    intro acc
    cases ev with
    | error pe => rfl
    | node n =>
      rw [loadBook.go, ih (n :: acc), List.reverse_cons, List.append_assoc]
      rfl

theorem loadBook_ok {evs : List Event} {se : Option ScanErr} {b : Book} (h : loadBook evs se = .ok b) :
    se = none ∧ b = Book.ofNodes (evs.filterMap fun ev => match ev with | .node n => some n | .error _ => none) := by
  rw [loadBook_eq] at h
  split at h
  · cases h
  · cases h
  · exact ⟨rfl, (Except.ok.inj h).symm⟩

theorem perDay_append (f : LogDay → Bytes) (a b : List LogDay) : perDay f (a ++ b) = perDay f a ++ perDay f b := by
  simp [perDay]

theorem allElements_append (a b : List LogDay) : Report.allElements (a ++ b) = Report.allElements a ++ Report.allElements b := by
  simp [Report.allElements]

end App
end Hrano
