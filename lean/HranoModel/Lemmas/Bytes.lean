import HranoModel.Model.Bytes
/-
  What the byte-string operations of `Model/Bytes.lean` do on strings of a given form.  `trimLeft` is core's `dropWhile`,
  `splitOn` and `join` core's `List.splitOn` and `intercalate`, `Bytes.le` / `lt` decide core's order on `List UInt8`.
  Trimming is described by two notions: every byte of a string lies in the cut set (`AllIn`), and a non-empty string
  starts / ends outside it (`StartsOutside`, `EndsOutside`); both are closed under `++`.
-/
namespace Hrano

/-! Shortcuts: the search for these instances otherwise goes round the order classes of `UInt8` first, in every
    declaration that needs one of them, which is slow. -/
instance : LawfulBEq UInt8 := inferInstance
instance : ReflBEq UInt8 := LawfulBEq.toReflBEq
instance : LawfulBEq Bytes := inferInstanceAs (LawfulBEq (List UInt8))
instance : ReflBEq Bytes := LawfulBEq.toReflBEq

theorem exists_concat_of_ne_nil {α : Type} {l : List α} (h : l ≠ []) : ∃ ys y, l = ys ++ [y] :=
  ⟨_, _, (List.dropLast_concat_getLast h).symm⟩

namespace Bytes

/-- `Doc.AllInSet` unfolds to the same -/
def AllIn (cut : List UInt8) (s : Bytes) : Prop := ∀ b ∈ s, cut.contains b = true

namespace AllIn

theorem nil (cut : List UInt8) : AllIn cut [] := fun _ h => nomatch h

theorem append {cut : List UInt8} {a b : Bytes} (ha : AllIn cut a) (hb : AllIn cut b) : AllIn cut (a ++ b) :=
  fun x hx => (List.mem_append.mp hx).elim (ha x) (hb x)

theorem mono {c₁ c₂ : List UInt8} {s : Bytes} (hsub : ∀ b ∈ c₁, c₂.contains b = true) (h : AllIn c₁ s) : AllIn c₂ s :=
  fun b hb => hsub b (List.contains_iff_mem.mp (h b hb))

theorem opt {cut : List UInt8} {x : UInt8} (hx : cut.contains x = true) (c : Bool) : AllIn cut (if c then [x] else []) := by
  cases c
  · exact nil cut
  · intro b hb; cases List.mem_singleton.mp hb; exact hx

end AllIn

theorem outside_of_sub {c₁ c₂ : List UInt8} (hsub : ∀ b ∈ c₁, c₂.contains b = true) {x : UInt8} (hx : c₂.contains x = false) :
    c₁.contains x = false :=
  Bool.eq_false_iff.2 fun h => Bool.eq_false_iff.1 hx (hsub x (List.contains_iff_mem.mp h))

def StartsOutside (cut : List UInt8) (s : Bytes) : Prop := ∃ x xs, s = x :: xs ∧ cut.contains x = false

def EndsOutside (cut : List UInt8) (s : Bytes) : Prop := ∃ xs x, s = xs ++ [x] ∧ cut.contains x = false

namespace StartsOutside
theorem append {cut : List UInt8} {s : Bytes} (h : StartsOutside cut s) (t : Bytes) : StartsOutside cut (s ++ t) := by
  obtain ⟨x, xs, rfl, hx⟩ := h
  exact ⟨x, xs ++ t, rfl, hx⟩
end StartsOutside

namespace EndsOutside
theorem append {cut : List UInt8} {s : Bytes} (t : Bytes) (h : EndsOutside cut s) : EndsOutside cut (t ++ s) := by
  obtain ⟨xs, x, rfl, hx⟩ := h
  exact ⟨t ++ xs, x, (List.append_assoc ..).symm, hx⟩
end EndsOutside

theorem trimLeft_nil (cut : List UInt8) : trimLeft cut [] = [] := rfl

theorem trimLeft_eq_dropWhile (cut : List UInt8) : ∀ s : Bytes, trimLeft cut s = s.dropWhile cut.contains
  | [] => rfl
  | b :: bs => by rw [trimLeft, List.dropWhile_cons, trimLeft_eq_dropWhile cut bs]

theorem trimLeft_allIn (cut : List UInt8) (a b : Bytes) (h : AllIn cut a) : trimLeft cut (a ++ b) = trimLeft cut b := by
  rw [trimLeft_eq_dropWhile, trimLeft_eq_dropWhile, List.dropWhile_append_of_pos h]

theorem trimLeft_startsOutside (cut : List UInt8) (s : Bytes) (h : StartsOutside cut s) : trimLeft cut s = s := by
  obtain ⟨x, xs, rfl, hx⟩ := h
  rw [trimLeft, hx]; rfl

theorem trimRight_allIn (cut : List UInt8) (a b : Bytes) (h : AllIn cut b) : trimRight cut (a ++ b) = trimRight cut a := by
  unfold trimRight
  rw [List.reverse_append, trimLeft_allIn cut b.reverse a.reverse (fun y hy => h y (List.mem_reverse.mp hy))]

theorem trimRight_endsOutside (cut : List UInt8) (s : Bytes) (h : EndsOutside cut s) : trimRight cut s = s := by
  obtain ⟨xs, x, rfl, hx⟩ := h
  rw [trimRight, List.reverse_append, List.reverse_singleton, List.singleton_append, trimLeft, hx]
  simp

theorem trim_core (cut : List UInt8) (pre core post : Bytes) (hpre : AllIn cut pre) (hpost : AllIn cut post)
    (hs : StartsOutside cut core) (he : EndsOutside cut core) : trim cut (pre ++ core ++ post) = core := by
  unfold trim
  rw [List.append_assoc, trimLeft_allIn cut pre _ hpre, trimLeft_startsOutside cut _ (hs.append post),
    trimRight_allIn cut core post hpost, trimRight_endsOutside cut core he]

theorem trim_allIn (cut : List UInt8) (s : Bytes) (h : AllIn cut s) : trim cut s = [] := by
  rw [trim, ← List.append_nil s, trimLeft_allIn cut s [] h]
  rfl

theorem trimLeft_append_stop (cut : List UInt8) (x : UInt8) (hx : cut.contains x = false) (l : Bytes) :
    trimLeft cut (l ++ [x]) = trimLeft cut l ++ [x] := by
  rw [trimLeft_eq_dropWhile, trimLeft_eq_dropWhile, List.dropWhile_append, List.dropWhile_cons_of_neg (Bool.eq_false_iff.mp hx)]
  split
  · next h => rw [List.isEmpty_iff.mp h]; rfl
  · rfl

theorem trimRight_cons_stop (cut : List UInt8) (x : UInt8) (xs : Bytes) (hx : cut.contains x = false) :
    trimRight cut (x :: xs) = x :: trimRight cut xs := by
  simp [trimRight, trimLeft_append_stop cut x hx]

theorem splitLastAny_none (cut : List UInt8) (b : Bytes) (hb : ∀ x ∈ b, cut.contains x = false) : splitLastAny cut b = none := by
  induction b with
  | nil => rfl
  | cons y ys ih =>
    simp only [splitLastAny, ih (fun x hx => hb x (List.mem_cons_of_mem _ hx)), hb y (List.mem_cons_self)]
    rfl

theorem splitLastAny_at (cut : List UInt8) (a b : Bytes) (sep : UInt8) (hsep : cut.contains sep = true)
    (hb : ∀ x ∈ b, cut.contains x = false) : splitLastAny cut (a ++ sep :: b) = some (a, sep :: b) := by
  induction a with
  | nil => simp only [List.nil_append, splitLastAny, splitLastAny_none cut b hb, hsep]; rfl
  | cons y ys ih => simp only [List.cons_append, splitLastAny, ih]

theorem splitFirst_none (sep : UInt8) (s : Bytes) (h : ∀ b ∈ s, b ≠ sep) : splitFirst sep s = none := by
  induction s with
  | nil => rfl
  | cons c r ih =>
    rw [splitFirst, if_neg (mt beq_iff_eq.mp (h c List.mem_cons_self)), ih fun b hb => h b (List.mem_cons_of_mem _ hb)]

theorem splitFirst_at (sep : UInt8) (pre post : Bytes) (h : ∀ b ∈ pre, b ≠ sep) : splitFirst sep (pre ++ sep :: post) = some (pre, post) := by
  induction pre with
  | nil => rw [List.nil_append, splitFirst, if_pos (beq_self_eq_true sep)]
  | cons c r ih =>
    rw [List.cons_append, splitFirst, if_neg (mt beq_iff_eq.mp (h c List.mem_cons_self)), ih fun b hb => h b (List.mem_cons_of_mem _ hb)]

/-- `splitOn` is core's `List.splitOn`; the first arm of its inner `match` is never taken -/
theorem splitOn_eq (sep : UInt8) : ∀ s : Bytes, splitOn sep s = List.splitOn sep s
  | [] => rfl
  | b :: bs => by
    rw [splitOn, splitOn_eq sep bs, List.splitOn_cons_eq_if_modifyHead]
    cases h : List.splitOn sep bs with
    | nil => exact absurd h (List.splitOn_ne_nil sep bs)
    | cons p ps => rfl

theorem splitOn_ne_nil (sep : UInt8) (s : Bytes) : splitOn sep s ≠ [] :=
  splitOn_eq sep s ▸ List.splitOn_ne_nil sep s

theorem splitOn_append_sep (sep : UInt8) (a b : Bytes) : splitOn sep (a ++ sep :: b) = splitOn sep a ++ splitOn sep b := by
  simp only [splitOn_eq, List.splitOn_append_cons_self]

theorem splitOn_no_sep (sep : UInt8) (l : Bytes) (h : sep ∉ l) : splitOn sep l = [l] := by
  rw [splitOn_eq, List.splitOn_eq_singleton h]

theorem join_cons (sep : UInt8) (p : Bytes) {l : List Bytes} (h : l ≠ []) :
    join sep (p :: l) = p ++ sep :: join sep l := by
  cases l with
  | nil => exact absurd rfl h
  | cons q ps => rfl

theorem join_snoc2 (sep : UInt8) (n m : Bytes) (pre : List Bytes) :
    join sep (pre ++ [n, m]) = join sep (pre ++ [n ++ sep :: m]) := by
  induction pre with
  | nil => rfl
  | cons p pre ih => rw [List.cons_append, List.cons_append, join_cons _ _ (by simp), join_cons _ _ (by simp), ih]

theorem join_eq_intercalate (sep : UInt8) : ∀ l : List Bytes, join sep l = [sep].intercalate l
  | [] => rfl
  | [p] => List.intercalate_singleton.symm
  | p :: q :: ps => by
    rw [join, join_eq_intercalate sep (q :: ps), List.intercalate_cons_cons, List.append_assoc, List.singleton_append]

theorem join_splitOn (sep : UInt8) (s : Bytes) : join sep (splitOn sep s) = s := by
  rw [splitOn_eq, join_eq_intercalate, List.intercalate_splitOn]

theorem mem_of_mem_runes_go : ∀ (fuel : Nat) (s r : Bytes), r ∈ runes.go fuel s → ∀ c ∈ r, c ∈ s
  | 0, _, _, hr => by simp [runes.go] at hr
  | _ + 1, [], _, hr => by simp [runes.go] at hr
  | fuel + 1, b :: bs, r, hr => by
    rw [runes.go] at hr
    rcases List.mem_cons.mp hr with rfl | hr
    · exact fun c hc => List.mem_of_mem_take hc
    · exact fun c hc => List.mem_of_mem_drop (mem_of_mem_runes_go fuel _ r hr c hc)

theorem mem_of_mem_runes {s r : Bytes} (h : r ∈ runes s) : ∀ c ∈ r, c ∈ s :=
  mem_of_mem_runes_go _ s r h

/-- first bytes of the encodings of the `unicode.IsSpace` runes -/
def spaceLead : List UInt8 := [0x09, 0x0A, 0x0B, 0x0C, 0x0D, 0x20, 0xC2, 0xE1, 0xE2, 0xE3]
/-- last bytes of those encodings -/
def spaceTail : List UInt8 := [0x09, 0x0A, 0x0B, 0x0C, 0x0D, 0x20, 0x85, 0xA0, 0x80, 0x81, 0x82, 0x83, 0x84, 0x86, 0x87, 0x88, 0x89, 0x8A, 0xA8, 0xA9, 0xAF, 0x9F]

theorem spaceRunes_ends : ∀ r ∈ spaceRunes, (∃ y ∈ spaceLead, r.head? = some y) ∧ ∃ y ∈ spaceTail, r.reverse.head? = some y := by
  decide +kernel

theorem isPrefixOf_false_of_head {r : Bytes} {y x : UInt8} (xs : Bytes) (hr : r.head? = some y) (hne : x ≠ y) :
    r.isPrefixOf (x :: xs) = false := by
  cases r with
  | nil => cases hr
  | cons a t =>
    cases hr
    simp [List.isPrefixOf, Ne.symm hne]

theorem leadingSpaceWidth_none (x : UInt8) (xs : Bytes) (h : ∀ y ∈ spaceLead, x ≠ y) : leadingSpaceWidth (x :: xs) = none := by
  have : spaceRunes.find? (fun r => r.isPrefixOf (x :: xs)) = none :=
    List.find?_eq_none.mpr fun r hr => by
      obtain ⟨⟨y, hy, hh⟩, _⟩ := spaceRunes_ends r hr
      simp [isPrefixOf_false_of_head xs hh (h y hy)]
  simp [leadingSpaceWidth, this]

theorem trimSpaceLeft_stop (x : UInt8) (xs : Bytes) (h : ∀ y ∈ spaceLead, x ≠ y) : trimSpaceLeft (x :: xs) = x :: xs := by
  rw [trimSpaceLeft, List.length_cons, trimSpaceLeft.go, leadingSpaceWidth_none x xs h]

theorem trimSpaceLeft_blank (s : Bytes) : trimSpaceLeft (32 :: s) = trimSpaceLeft s := by
  rw [trimSpaceLeft, List.length_cons, trimSpaceLeft.go, show leadingSpaceWidth (32 :: s) = some 1 from rfl]
  rfl

theorem trimSpaceRight_stop (xs : Bytes) (x : UInt8) (h : ∀ y ∈ spaceTail, x ≠ y) : trimSpaceRight (xs ++ [x]) = xs ++ [x] := by
  have : spaceRunes.find? (fun sp => sp.reverse.isPrefixOf (x :: xs.reverse)) = none :=
    List.find?_eq_none.mpr fun r hr => by
      obtain ⟨_, y, hy, hh⟩ := spaceRunes_ends r hr
      simp [isPrefixOf_false_of_head xs.reverse hh (h y hy)]
  simp [trimSpaceRight, trimSpaceRight.go, this]

theorem trimSpace_ends {s xs ys : Bytes} {x y : UInt8} (h1 : s = x :: xs) (h2 : s = ys ++ [y])
    (hx : ∀ z ∈ spaceLead, x ≠ z) (hy : ∀ z ∈ spaceTail, y ≠ z) : trimSpace s = s := by
  rw [trimSpace, h1, trimSpaceLeft_stop x xs hx, ← h1, h2, trimSpaceRight_stop ys y hy]

theorem trimSpace_plain (x : UInt8) (mid : Bytes) (y : UInt8) (hx : ∀ z ∈ spaceLead, x ≠ z) (hy : ∀ z ∈ spaceTail, y ≠ z) :
    trimSpace (x :: (mid ++ [y])) = x :: (mid ++ [y]) :=
  trimSpace_ends rfl (List.cons_append ..).symm hx hy

theorem trimSpace_single (x : UInt8) (hx : ∀ z ∈ spaceLead, x ≠ z) (hy : ∀ z ∈ spaceTail, x ≠ z) : trimSpace [x] = [x] :=
  trimSpace_ends rfl (List.nil_append _).symm hx hy

theorem le_iff : ∀ {a b : Bytes}, le a b = true ↔ a ≤ b
  | [], _ => by simp [le]
  | _ :: _, [] => by simp [le]
  | a :: as, b :: bs => by
    rw [le, List.cons_le_cons_iff, ← le_iff, UInt8.lt_iff_toNat_lt, ← UInt8.toNat_inj]
    -- what remains is the trichotomy of the two `toNat`s against the nested `if`
    grind

theorem lt_iff {a b : Bytes} : lt a b = true ↔ a < b := by
  rw [lt, Bool.and_eq_true, le_iff, List.le_iff_lt_or_eq]
  constructor
  · rintro ⟨h | h, hne⟩
    · exact h
    · simp [h] at hne
  · intro h
    exact ⟨Or.inl h, by simpa using fun e : a = b => List.lt_irrefl b (e ▸ h)⟩

theorem le_refl : ∀ a : Bytes, le a a = true := fun a => le_iff.2 (List.le_refl a)

theorem le_total (a b : Bytes) : le a b = true ∨ le b a = true := by
  simpa only [le_iff] using List.le_total a b

theorem le_antisymm (a b : Bytes) (h1 : le a b = true) (h2 : le b a = true) : a = b :=
  List.le_antisymm (le_iff.1 h1) (le_iff.1 h2)

theorem le_trans (a b c : Bytes) (h1 : le a b = true) (h2 : le b c = true) : le a c = true :=
  le_iff.2 (List.le_trans (le_iff.1 h1) (le_iff.1 h2))

theorem lt_irrefl (a : Bytes) : lt a a = false := by simp [lt]

theorem lt_trans {a b c : Bytes} (h1 : lt a b = true) (h2 : lt b c = true) : lt a c = true :=
  lt_iff.2 (List.lt_trans (lt_iff.1 h1) (lt_iff.1 h2))

theorem lt_of_le_ne {a b : Bytes} (h1 : le a b = true) (h2 : a ≠ b) : lt a b = true := by
  simp [lt, h1, h2]

theorem lt_of_not_le {a b : Bytes} (h : ¬ le a b = true) : lt b a = true :=
  lt_iff.2 (List.not_le.1 (mt le_iff.2 h))

end Bytes
end Hrano
