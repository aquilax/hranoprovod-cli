import HranoModel.Lemmas.Bytes
/-
  Decimal digit strings: `natDigits` / `natPad` write digit bytes, and reading them back (`valOf`) gives the number.
  `natDigits` writes the characters of core's `Nat.toDigits` as bytes, so its facts are core's (`valOf_map_digits`).
-/
namespace Hrano
namespace Num
open Bytes

def digitVal (c : UInt8) : Nat := c.toNat - 48

theorem digit_ne {c b : UInt8} (hc : isDigit c = true) (hb : isDigit b = false) : c ≠ b :=
  fun e => by
    rw [e, hb] at hc
    cases hc

theorem digit_outside {c : UInt8} (hc : isDigit c = true) {S : List UInt8} (hS : ∀ x ∈ S, isDigit x = false) :
    S.contains c = false :=
  Bool.eq_false_iff.2 fun h => digit_ne hc (hS c (List.contains_iff_mem.1 h)) rfl

/-- the value of a digit string read onto `init` -/
def valOf (ds : Bytes) (init : Nat) : Nat := ds.foldl (fun a c => a * 10 + digitVal c) init

theorem valOf_append (a b : Bytes) (init : Nat) : valOf (a ++ b) init = valOf b (valOf a init) := by
  simp [valOf, List.foldl_append]

theorem toNat_digit_byte {c : Char} (h : c.isDigit = true) : (UInt8.ofNat c.toNat).toNat = c.toNat := by
  rw [UInt8.toNat_ofNat']
  exact Nat.mod_eq_of_lt (Nat.lt_of_le_of_lt (Char.isDigit_iff_toNat.mp h).2 (by decide))

theorem valOf_map_digits (cs : List Char) (h : ∀ c ∈ cs, c.isDigit = true) (init : Nat) :
    valOf (cs.map fun c => UInt8.ofNat c.toNat) init = Nat.ofDigitChars 10 cs init := by
  induction cs generalizing init with
  | nil => rfl
  | cons c cs ih =>
    rw [List.map_cons, Nat.ofDigitChars_cons, ← ih (fun c' h' => h c' (List.mem_cons_of_mem _ h')), valOf, List.foldl_cons, digitVal,
      toNat_digit_byte (h c List.mem_cons_self), Nat.mul_comm]
    rfl

/-- the recursion of `natDigits` (core's `Nat.toDigits_eq_if`, the digit characters as bytes) -/
theorem natDigits_eq_if (n : Nat) :
    natDigits n = if n < 10 then [UInt8.ofNat (48 + n)] else natDigits (n / 10) ++ [UInt8.ofNat (48 + n % 10)] := by
  have t : ∀ d, d < 10 → UInt8.ofNat (Nat.digitChar d).toNat = UInt8.ofNat (48 + d) := by decide
  unfold natDigits
  rw [Nat.toDigits_eq_if (by omega : 1 < 10)]
  split
  · next h => simp [t n h]
  · simp [t (n % 10) (Nat.mod_lt _ (by omega))]

theorem natDigits_isDigit (n : Nat) : ∀ c ∈ natDigits n, isDigit c = true := by
  intro b hb
  obtain ⟨c, hc, rfl⟩ := List.mem_map.mp hb
  have hd := Nat.isDigit_of_mem_toDigits (by decide) (by decide) hc
  rw [isDigit, toNat_digit_byte hd]
  simpa using Char.isDigit_iff_toNat.mp hd

theorem natDigits_ne_nil (n : Nat) : natDigits n ≠ [] := by
  simp [natDigits]

theorem valOf_natDigits (n init : Nat) : valOf (natDigits n) init = init * 10 ^ (natDigits n).length + n := by
  rw [natDigits, valOf_map_digits _ fun c => Nat.isDigit_of_mem_toDigits (by decide) (by decide), Nat.ofDigitChars_eq_ofDigitChars_zero,
    Nat.ofDigitChars_ten_toDigits, List.length_map, Nat.mul_comm]

theorem natDigits_length_le (n k : Nat) (hk : 0 < k) (h : n < 10 ^ k) : (natDigits n).length ≤ k := by
  unfold natDigits
  rw [List.length_map]
  exact (Nat.length_toDigits_le_iff (by omega) hk).mpr h

theorem valOf_replicate_zero (j : Nat) (init : Nat) : valOf (List.replicate j 48) init = init * 10 ^ j := by
  have h := valOf_map_digits (List.replicate j '0') (fun c hc => (List.mem_replicate.mp hc).2 ▸ rfl) init
  rwa [List.map_replicate, Nat.ofDigitChars_replicate_zero, Nat.mul_comm] at h

theorem natPad_isDigit (w n : Nat) : ∀ c ∈ natPad w n, isDigit c = true := by
  intro c hc
  unfold natPad at hc
  rcases List.mem_append.mp hc with hc | hc
  · rw [(List.mem_replicate.mp hc).2]
    decide
  · exact natDigits_isDigit n c hc

theorem natPad_length (w n : Nat) (hw : 0 < w) (h : n < 10 ^ w) : (natPad w n).length = w := by
  simp only [natPad, List.length_append, List.length_replicate]
  exact Nat.sub_add_cancel (natDigits_length_le n w hw h)

theorem natPad_ne_nil (w n : Nat) : natPad w n ≠ [] := by
  simp [natPad, natDigits_ne_nil]

theorem valOf_natPad (w n : Nat) (hw : 0 < w) (h : n < 10 ^ w) (init : Nat) : valOf (natPad w n) init = init * 10 ^ w + n := by
  simp only [natPad]
  rw [valOf_append, valOf_replicate_zero, valOf_natDigits, Nat.mul_assoc, ← Nat.pow_add,
    Nat.sub_add_cancel (natDigits_length_le n w hw h)]

theorem natPad_spec (w n : Nat) (hw : 0 < w) (h : n < 10 ^ w) :
    (natPad w n).length = w ∧ (∀ c ∈ natPad w n, isDigit c = true) ∧ valOf (natPad w n) 0 = n :=
  ⟨natPad_length w n hw h, natPad_isDigit w n, by rw [valOf_natPad w n hw h, Nat.zero_mul, Nat.zero_add]⟩

end Num
end Hrano
