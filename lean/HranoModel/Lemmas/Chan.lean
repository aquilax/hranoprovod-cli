import HranoModel.Model.Chan
/-
  For C18: the transitions as a relation (`Step`), the invariant of the producer/consumer
  system, and where every execution ends (`terminal_spec`).
-/
namespace Hrano
namespace Chan

def remaining : PState → List Msg
  | .working r => r
  | .offering m r => m :: r
  | .exited => []

def pm : PState → Nat
  | .working r => 2 * r.length + 1
  | .offering _ r => 2 * r.length + 2
  | .exited => 0

def cm : CState → Nat
  | .handling _ => 1
  | _ => 0

/-- strictly decreases along every transition (`C18.every_schedule_terminates`), so every execution is finite.  `pm` counts the producer's steps still to
    come (an offer and a rendezvous per message, then the exit), `cm` the consumer's pending `handle`.  `exit` and `offer`
    lower `pm` by one (−2), `handle` lowers `cm` (−1), a rendezvous lowers `pm` by one and raises `cm` by one (−2 + 1):
    hence the factor 2. -/
def measure (cfg : Config) : Nat := 2 * pm cfg.p + cm cfg.c

/-- the four transitions as a relation: what `step` does whenever it does anything -/
inductive Step (pol : Policy) : Config → Config → Prop where
  | exit (c rcv) : Step pol ⟨.working [], c, rcv⟩ ⟨.exited, c, rcv⟩
  | offer (m r c rcv) : Step pol ⟨.working (m :: r), c, rcv⟩ ⟨.offering m r, c, rcv⟩
  | handle (p m rcv) : Step pol ⟨p, .handling m, rcv⟩ ⟨p, if stops pol m then .returned else .selecting, rcv⟩
  | rendezvous (m r rcv) : Step pol ⟨.offering m r, .selecting, rcv⟩ ⟨.working r, .handling m, rcv ++ [m]⟩

theorem step_sound {pol : Policy} {cfg cfg' : Config} {ch : Choice} (h : step pol cfg ch = some cfg') :
    Step pol cfg cfg' := by
  obtain ⟨p, c, rcv⟩ := cfg
  -- under each choice the branches of `step` that answer `none` contradict `h`; four remain
  cases ch <;> simp only [step] at h <;> split at h <;> cases h
  · exact .exit ..
  · exact .offer ..
  · exact .handle ..
  · exact .rendezvous ..

/-- the consumer's view is consistent with what the producer still has to send -/
structure Inv (pol : Policy) (ms : List Msg) (cfg : Config) : Prop where
  split : cfg.received ++ remaining cfg.p = ms
  cons : match cfg.c with
    | .selecting => ∀ m ∈ cfg.received, stops pol m = false
    | .handling m => ∃ ini, cfg.received = ini ++ [m] ∧ ∀ x ∈ ini, stops pol x = false
    | .returned => ∃ ini m, cfg.received = ini ++ [m] ∧ stops pol m = true ∧ ∀ x ∈ ini, stops pol x = false

theorem inv_init (pol : Policy) (ms : List Msg) : Inv pol ms (init ms) :=
  ⟨List.nil_append _, fun _ h => nomatch h⟩

theorem inv_step {pol : Policy} {ms : List Msg} {cfg cfg' : Config} (hi : Inv pol ms cfg) (h : Step pol cfg cfg') :
    Inv pol ms cfg' := by
  obtain ⟨hs, hc⟩ := hi
  cases h with
  | exit | offer => exact ⟨hs, hc⟩
  | rendezvous m r rcv => exact ⟨by rw [← hs, List.append_assoc]; rfl, rcv, rfl, hc⟩
  | handle p m rcv =>
    obtain ⟨ini, hr, hini⟩ := hc
    refine ⟨hs, ?_⟩
    cases hst : stops pol m with
    | true => exact ⟨ini, m, hr, hst, hini⟩
    | false =>
      intro x hx
      rcases List.mem_append.mp (hr ▸ hx) with hx | hx
      · exact hini x hx
      · rw [List.mem_singleton.mp hx]; exact hst

/-- configurations reachable from the initial one by any sequence of enabled transitions -/
inductive Reachable (pol : Policy) (ms : List Msg) : Config → Prop where
  | init : Reachable pol ms (init ms)
  | step (cfg cfg' : Config) (ch : Choice) : Reachable pol ms cfg → step pol cfg ch = some cfg' → Reachable pol ms cfg'

theorem inv_reachable {pol : Policy} {ms : List Msg} {cfg : Config} (h : Reachable pol ms cfg) : Inv pol ms cfg := by
  induction h with
  | init => exact inv_init pol ms
  | step _ _ _ _ hstep ih => exact inv_step ih (step_sound hstep)

theorem expected_prefix (pol : Policy) : ∀ (ini : List Msg) (m : Msg) (rest : List Msg),
    (∀ x ∈ ini, stops pol x = false) → stops pol m = true → expected pol (ini ++ m :: rest) = ini ++ [m]
  | [], m, rest, _, hm => by simp [expected, hm]
  | x :: ini, m, rest, hini, hm => by
    have hx : stops pol x = false := hini x (List.mem_cons_self)
    have := expected_prefix pol ini m rest (fun y hy => hini y (List.mem_cons_of_mem _ hy)) hm
    simp [expected, hx, this]

theorem runSchedule_reachable (pol : Policy) (ms : List Msg) (sched : List Choice) (cfg : Config)
    (h : Reachable pol ms cfg) : Reachable pol ms (runSchedule pol sched cfg) := by
  fun_induction runSchedule pol sched cfg with
  | case1 => exact h
  | case2 ch _ cfg cfg' hs ih => exact ih (.step cfg cfg' ch h hs)
  | case3 _ _ _ _ ih => exact ih h

theorem terminal_stuck {pol : Policy} {cfg cfg' : Config} (ht : terminal pol cfg = true) (h : Step pol cfg cfg') : False := by
  cases h <;> simp [terminal, step] at ht

/-- where every execution ends, whatever the schedule: the consumer has returned with the messages up to the first one its
    policy stops at, and the producer has exited unless the consumer left messages unreceived -/
theorem terminal_spec {pol : Policy} {ms : List Msg} (hdone : Msg.done ∈ ms) {cfg : Config}
    (hr : Reachable pol ms cfg) (ht : terminal pol cfg = true) :
    cfg.c = .returned ∧ cfg.received = expected pol ms ∧ (cfg.received = ms → cfg.p = .exited) := by
  obtain ⟨hs, hc⟩ := inv_reachable hr
  obtain ⟨p, c, rcv⟩ := cfg
  -- every other shape of configuration has a transition it can take
  have hp : ∀ r, p ≠ .working r := by
    rintro (_ | _) rfl
    · exact terminal_stuck ht (.exit ..)
    · exact terminal_stuck ht (.offer ..)
  cases c with
  | handling m => exact (terminal_stuck ht (.handle ..)).elim
  | selecting =>
    cases p with
    | working r => exact absurd rfl (hp r)
    | offering m r => exact (terminal_stuck ht (.rendezvous ..)).elim
    | exited =>
      -- the consumer waits on a producer that has exited: then `Done` was received, and not stopped at
      have := hc _ ((List.append_nil rcv ▸ hs) ▸ hdone)
      simp [stops] at this
  | returned =>
    obtain ⟨ini, m, rfl, hm, hini⟩ := hc
    refine ⟨rfl, ?_, fun h => ?_⟩
    · rw [← hs, List.append_assoc]; exact (expected_prefix pol ini m _ hini hm).symm
    · cases p with
      | working r => exact absurd rfl (hp r)
      | offering m' r => simp [← hs, remaining] at h
      | exited => rfl

theorem sends_end_with_done (evs : List Event) (scanErr : Bool) :
    ∃ pre, sends evs scanErr = pre ++ [Msg.done] ∧ Msg.done ∉ pre := by
  unfold sends
  induction evs with
  | nil =>
    cases scanErr
    · exact ⟨[], rfl, nofun⟩
    · exact ⟨[.ioerr], rfl, by simp⟩
  | cons ev r ih =>
    cases ev with
    | node n =>
      obtain ⟨pre, h1, h2⟩ := ih
      exact ⟨.node n :: pre, by rw [sends.go, h1]; rfl, by simp [h2]⟩
    | error e => exact ⟨[.perr e], rfl, by simp⟩

theorem done_mem_sends (evs : List Event) (scanErr : Bool) : Msg.done ∈ sends evs scanErr := by
  obtain ⟨pre, h, _⟩ := sends_end_with_done evs scanErr
  rw [h]
  exact List.mem_append_right _ (List.mem_singleton.mpr rfl)

theorem expected_drain (evs : List Event) (scanErr : Bool) :
    expected .drain (sends evs scanErr) = sends evs scanErr := by
  obtain ⟨pre, h, hpre⟩ := sends_end_with_done evs scanErr
  rw [h]
  refine expected_prefix .drain pre .done [] (fun x hx => ?_) rfl
  cases x with
  | done => exact absurd hx hpre
  | _ => rfl

end Chan
end Hrano
