import HranoModel.Lemmas.ResolveSpec
import HranoModel.Lemmas.Merge
/-
  The book as an association list, and resolved element lists: the paths determine them (`resolved_unique`).
-/
namespace Hrano
open Spec

namespace Book

theorem lookup_cons (k : Bytes) (w : Elements) (r : Book) (m : Bytes) :
    lookup ((k, w) :: r) m = if k == m then some w else lookup r m := by
  unfold lookup
  rw [List.find?_cons]
  cases k == m <;> rfl

theorem keys_cons (k : Bytes) (w : Elements) (r : Book) : keys ((k, w) :: r) = k :: keys r := rfl

theorem lookup_set (b : Book) (n m : Bytes) (v : Elements) :
    (set b n v).lookup m = if n == m then some v else b.lookup m := by
  fun_induction set b n v with
  | case1 n v => exact lookup_cons n v [] m
  | case2 k w r n v h =>
    cases eq_of_beq h
    rw [lookup_cons, lookup_cons]
    cases k == m <;> rfl
  | case3 k w r n v h ih =>
    rw [lookup_cons, lookup_cons, ih]
    cases hm : k == m
    · rfl
    · -- `k` is `m` and is not `n`
      have hn : (n == m) = false := beq_eq_false_iff_ne.mpr fun h' => h (h' ▸ hm)
      rw [hn]; rfl

theorem keys_set (b : Book) (n : Bytes) (v : Elements) :
    (set b n v).keys = if n ∈ b.keys then b.keys else b.keys ++ [n] := by
  fun_induction set b n v with
  | case1 => rfl
  | case2 k w r n v h => rw [if_pos (eq_of_beq h ▸ List.mem_cons_self)]; rfl
  | case3 k w r n v h ih =>
    have hn : n ≠ k := fun h' => h (h' ▸ BEq.rfl)
    simp only [keys_cons, List.mem_cons, hn, false_or, ih]
    exact apply_ite (List.cons k) _ _ _

theorem lookup_eq_none_iff (b : Book) (n : Bytes) : b.lookup n = none ↔ n ∉ b.keys := by
  unfold lookup keys
  rw [Option.map_eq_none_iff, List.find?_eq_none, List.mem_map]
  exact ⟨fun h ⟨x, hx, e⟩ => h x hx (beq_iff_eq.mpr e), fun h x hx e => h ⟨x, hx, eq_of_beq e⟩⟩

theorem lookup_none_of_not_mem : ∀ (b : Book) (n : Bytes), n ∉ b.keys → b.lookup n = none :=
  fun b n => (lookup_eq_none_iff b n).mpr

theorem lookup_isSome_iff (b : Book) (n : Bytes) : (b.lookup n).isSome ↔ n ∈ b.keys :=
  Option.isSome_iff_ne_none.trans ((not_congr (lookup_eq_none_iff b n)).trans Classical.not_not)

theorem lookup_none_iff_of_keys {b b' : Book} (hk : b.keys = b'.keys) (n : Bytes) : b.lookup n = none ↔ b'.lookup n = none := by
  rw [lookup_eq_none_iff, lookup_eq_none_iff, hk]

theorem eq_map_lookup (B : Book) (hnd : B.keys.Nodup) : B = B.keys.map fun k => (k, (B.lookup k).getD []) := by
  induction B with
  | nil => rfl
  | cons kv r ih =>
    obtain ⟨k, w⟩ := kv
    obtain ⟨hk, hr⟩ := List.nodup_cons.mp hnd
    rw [keys_cons, List.map_cons, lookup_cons, if_pos BEq.rfl]
    refine congrArg _ ((ih hr).trans (List.map_congr_left fun n hn => ?_))
    rw [lookup_cons, if_neg fun e : (k == n) = true => hk (eq_of_beq e ▸ hn)]

theorem ext_of_lookup {B₁ B₂ : Book} (hk : B₁.keys = B₂.keys) (hnd : B₁.keys.Nodup) (h : ∀ n ∈ B₁.keys, B₁.lookup n = B₂.lookup n) :
    B₁ = B₂ := by
  rw [eq_map_lookup B₁ hnd, eq_map_lookup B₂ (hk ▸ hnd), ← hk]
  exact List.map_congr_left fun n hn => by rw [h n hn]

end Book

namespace Resolver
open Elements

/-- `nel` lists every name of `ps` once, with the sum of its amounts: a resolved list before it is sorted -/
structure AccRel (nel ps : Elements) : Prop where
  nodup : (Elements.names nel).Nodup
  value : ∀ leaf, Elements.valueAt nel leaf = sumOf leaf ps
  names : ∀ leaf, leaf ∈ Elements.names nel ↔ leaf ∈ Elements.names ps

theorem accRel_self (r : Elements) (h : (names r).Nodup) : AccRel r r :=
  ⟨h, fun n => (sumOf_eq_valueAt_of_nodup r h n).symm, fun _ => Iff.rfl⟩

theorem accRel_of_resolved {ps r : Elements} (h : Resolved ps r) : AccRel r ps := ⟨h.nodup, h.value, h.names⟩

namespace AccRel

theorem sumMerge {nel ps r pe : Elements} (h₁ : AccRel nel ps) (h₂ : AccRel r pe) (q : Q) :
    AccRel (Elements.sumMerge nel r q) (ps ++ pe.map (scale q)) := by
  refine ⟨nodup_sumMerge nel r q h₁.nodup, fun leaf => ?_, fun leaf => ?_⟩
  · rw [valueAt_sumMerge, h₁.value, sumOf_append, sumOf_map_scale, sumOf_eq_valueAt_of_nodup r h₂.nodup, h₂.value]
  · rw [mem_names_sumMerge, h₁.names, h₂.names]
    simp [Elements.names, scale, Function.comp_def]

theorem resolved {nel ps : Elements} (h : AccRel nel ps) : Resolved ps (Elements.sort nel) := by
  have hp : (Elements.sort nel).Perm nel := by rw [Srt.elements_sort_eq]; exact Srt.sortBy_perm _ nel
  refine ⟨?_, (hp.map _).nodup_iff.mpr h.nodup, fun leaf => ?_, fun leaf => ?_⟩
  · rw [Srt.elements_sort_eq]; exact List.pairwise_map.mpr (Srt.sortBy_sorted (fun e : Element => e.name) nel)
  · rw [← h.value leaf, valueAt_perm hp.symm h.nodup]
  · rw [(hp.map _).mem_iff]; exact h.names leaf

end AccRel
end Resolver

namespace Spec
open Elements

theorem resolved_unique {ps a b : Elements} (ha : Resolved ps a) (hb : Resolved ps b) : a = b := by
  -- each entry of one list is an entry of the other: its name is listed there, with the same amount
  have sub : ∀ {a b : Elements}, Resolved ps a → Resolved ps b → ∀ x ∈ a, x ∈ b := by
    intro a b ha hb x hx
    obtain ⟨y, hy, hyx⟩ := List.mem_map.mp ((hb.names x.name).mpr ((ha.names x.name).mp (List.mem_map_of_mem hx)))
    have hv := (ha.value x.name).trans (hb.value x.name).symm
    rw [valueAt_of_mem ha.nodup hx, ← hyx, valueAt_of_mem hb.nodup hy] at hv
    cases x; cases y
    cases hyx; cases hv
    exact hy
  have nd : ∀ {a : Elements}, Resolved ps a → a.Nodup :=
    fun h => (List.pairwise_map.mp h.nodup).imp fun hne e => hne (congrArg _ e)
  exact Srt.sorted_unique (fun e : Element => e.name) a b (fun _ hx _ hy => Srt.inj_of_nodup_map ha.nodup hx hy) (List.pairwise_map.mp ha.sorted)
    (List.pairwise_map.mp hb.sorted) ((List.perm_ext_iff_of_nodup (nd ha) (nd hb)).mpr fun x => ⟨sub ha hb x, sub hb ha x⟩)

end Spec
end Hrano
