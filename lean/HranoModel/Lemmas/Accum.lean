import HranoModel.Lemmas.Merge
/-
  The accumulator's two registers, read as lists of entries (`Accumulator.view`), are each built by `Elements.addTo` (the
  non-negative part of an amount goes to the positive register, the negative part to the negative one), so everything
  follows from the fold lemmas of `Lemmas/Merge.lean`.
-/
namespace Hrano
open Spec

namespace Spec

theorem posOf_eq_sumOf (n : Bytes) (es : Elements) :
    posOf n es = sumOf n (es.map fun e => ⟨e.name, if e.value < 0 then 0 else e.value⟩) := by
  induction es with
  | nil => rfl
  | cons e es ih =>
    simp only [posOf, List.map_cons, sumOf, ih]
    congr 1
    by_cases h : e.value < 0 <;> simp [h]

theorem negOf_eq_sumOf (n : Bytes) (es : Elements) :
    negOf n es = sumOf n (es.map fun e => ⟨e.name, if e.value < 0 then e.value else 0⟩) := by
  induction es with
  | nil => rfl
  | cons e es ih =>
    simp only [negOf, List.map_cons, sumOf, ih]
    congr 1
    by_cases h : e.value < 0 <;> simp [h]

theorem posOf_append (n : Bytes) (a b : Elements) : posOf n (a ++ b) = posOf n a + posOf n b := by
  simp only [posOf_eq_sumOf, List.map_append, sumOf_append]

theorem negOf_append (n : Bytes) (a b : Elements) : negOf n (a ++ b) = negOf n a + negOf n b := by
  simp only [negOf_eq_sumOf, List.map_append, sumOf_append]

theorem posOf_filter (x : Bytes) (cs : Elements) : posOf x (cs.filter (fun c => c.name == x)) = posOf x cs := by
  rw [posOf_eq_sumOf, posOf_eq_sumOf, ← sumOf_filter x (cs.map _), List.filter_map]
  rfl

theorem negOf_filter (x : Bytes) (cs : Elements) : negOf x (cs.filter (fun c => c.name == x)) = negOf x cs := by
  rw [negOf_eq_sumOf, negOf_eq_sumOf, ← sumOf_filter x (cs.map _), List.filter_map]
  rfl

theorem pos_add_neg (n : Bytes) (es : Elements) : posOf n es + negOf n es = sumOf n es := by
  induction es with
  | nil => exact Rat.add_zero 0
  | cons e es ih =>
    rw [posOf, negOf, sumOf, ← ih, Rat.add_assoc, Rat.add_left_comm (posOf n es), ← Rat.add_assoc]
    congr 1
    cases e.name == n <;> by_cases hv : e.value < 0 <;> simp [hv, Rat.add_zero, Rat.zero_add]

end Spec

namespace Accumulator

/-- the entry of name `n` (`acc[n]` of the Go map) -/
def find (a : Accumulator) (n : Bytes) : Option Acc := List.find? (fun x => x.name == n) a

def negAt (a : Accumulator) (n : Bytes) : Q := match find a n with | some x => x.neg | none => 0
def posAt (a : Accumulator) (n : Bytes) : Q := match find a n with | some x => x.pos | none => 0
def names (a : Accumulator) : List Bytes := a.map (·.name)

theorem find_of_mem {a : Accumulator} (h : (names a).Nodup) {x : Acc} (hx : x ∈ a) : find a x.name = some x :=
  Srt.find?_of_mem h hx

def view (f : Acc → Q) (a : Accumulator) : Elements := a.map fun x => ⟨x.name, f x⟩

theorem names_view (f : Acc → Q) (a : Accumulator) : Elements.names (view f a) = names a := by
  simp [view, names, Elements.names]

theorem valueAt_view (f : Acc → Q) (a : Accumulator) (n : Bytes) :
    Elements.valueAt (view f a) n = match find a n with | some x => f x | none => 0 := by
  simp only [Elements.valueAt, view, find, List.find?_map, Function.comp_def]
  cases List.find? (fun x => x.name == n) a <;> rfl

theorem posAt_eq (a : Accumulator) (n : Bytes) : posAt a n = Elements.valueAt (view (·.pos) a) n :=
  (valueAt_view _ a n).symm

theorem negAt_eq (a : Accumulator) (n : Bytes) : negAt a n = Elements.valueAt (view (·.neg) a) n :=
  (valueAt_view _ a n).symm

theorem view_pos_add (a : Accumulator) (n : Bytes) (v : Q) :
    view (·.pos) (add a n v) = Elements.addTo (view (·.pos) a) n (if v < 0 then 0 else v) := by
  fun_induction add a n v with
  | case1 n v =>
    show [_] = [_]
    split <;> rfl
  | case2 x xs n v h =>
    simp only [view, List.map_cons, Elements.addTo, h, if_true]
    split <;> simp [Rat.add_zero]
  | case3 x xs n v h ih =>
    simp only [view, List.map_cons, Elements.addTo, h] at ih ⊢
    rw [ih]
    rfl

theorem view_neg_add (a : Accumulator) (n : Bytes) (v : Q) :
    view (·.neg) (add a n v) = Elements.addTo (view (·.neg) a) n (if v < 0 then v else 0) := by
  fun_induction add a n v with
  | case1 n v =>
    show [_] = [_]
    split <;> rfl
  | case2 x xs n v h =>
    simp only [view, List.map_cons, Elements.addTo, h, if_true]
    split <;> simp [Rat.add_zero]
  | case3 x xs n v h ih =>
    simp only [view, List.map_cons, Elements.addTo, h] at ih ⊢
    rw [ih]
    rfl

end Accumulator

namespace Report
open Accumulator

theorem view_pos_accumulate (es : Elements) (a : Accumulator) :
    view (·.pos) (accumulate a es)
      = es.foldl (fun b e => Elements.addTo b e.name (if e.value < 0 then 0 else e.value)) (view (·.pos) a) :=
  (List.foldl_hom (view (·.pos)) fun _ _ => (view_pos_add _ _ _).symm).symm

theorem view_neg_accumulate (es : Elements) (a : Accumulator) :
    view (·.neg) (accumulate a es)
      = es.foldl (fun b e => Elements.addTo b e.name (if e.value < 0 then e.value else 0)) (view (·.neg) a) :=
  (List.foldl_hom (view (·.neg)) fun _ _ => (view_neg_add _ _ _).symm).symm

theorem posAt_accumulate (a : Accumulator) (es : Elements) (m : Bytes) :
    posAt (accumulate a es) m = posAt a m + posOf m es := by
  rw [posAt_eq, posAt_eq, view_pos_accumulate, Elements.valueAt_foldl_addTo, posOf_eq_sumOf]

theorem negAt_accumulate (a : Accumulator) (es : Elements) (m : Bytes) :
    negAt (accumulate a es) m = negAt a m + negOf m es := by
  rw [negAt_eq, negAt_eq, view_neg_accumulate, Elements.valueAt_foldl_addTo, negOf_eq_sumOf]

theorem posAt_accumulate_nil (cs : Elements) (n : Bytes) : posAt (accumulate [] cs) n = posOf n cs := by
  rw [posAt_accumulate]
  exact Rat.zero_add _

theorem negAt_accumulate_nil (cs : Elements) (n : Bytes) : negAt (accumulate [] cs) n = negOf n cs := by
  rw [negAt_accumulate]
  exact Rat.zero_add _

theorem nodup_accumulate (a : Accumulator) (es : Elements) (h : (names a).Nodup) : (names (accumulate a es)).Nodup := by
  rw [← names_view (·.pos)] at h ⊢
  rw [view_pos_accumulate]
  exact Elements.nodup_foldl_addTo _ es _ h

theorem mem_names_accumulate (a : Accumulator) (es : Elements) (m : Bytes) :
    m ∈ names (accumulate a es) ↔ m ∈ names a ∨ m ∈ es.map (·.name) := by
  rw [← names_view (·.pos), ← names_view (·.pos), view_pos_accumulate, Elements.mem_names_foldl_addTo]
  rfl

theorem mem_accumulate {cs : Elements} {x : Acc} (hx : x ∈ accumulate [] cs) :
    x.pos = posOf x.name cs ∧ x.neg = negOf x.name cs := by
  have hf := find_of_mem (nodup_accumulate [] cs List.nodup_nil) hx
  constructor
  · rw [← posAt_accumulate_nil, posAt, hf]
  · rw [← negAt_accumulate_nil, negAt, hf]

theorem accumulate_contributions (db : Book) (es : Elements) :
    es.foldl (fun a e => accumulate a (contributions db e)) [] = accumulate [] (dayContributions db es) := by
  rw [dayContributions, accumulate, List.foldl_flatten, List.foldl_map]
  rfl

theorem singleContribs_eq (db : Book) (x : Bytes) (d : LogDay) :
    singleContribs db x d = (dayContributions db d.elements).filter (fun c => c.name == x) := by
  simp [singleContribs, dayContributions, List.filter_flatten, Function.comp_def]

theorem sum_balanceSingleOf (db : Book) (x : Bytes) (e : Element) :
    ((balanceSingleOf db x e).map (·.value)).sum = sumOf x (contributions db e) := by
  unfold contributions balanceSingleOf
  cases db.lookup e.name with
  | none => cases h : e.name == x <;> simp [h, sumOf, Rat.add_zero]
  | some els =>
    simp only
    induction els with
    | nil => rfl
    | cons r rs ih => cases h : r.name == x <;> simp [h, sumOf, ← ih, Rat.zero_add]

end Report
end Hrano
