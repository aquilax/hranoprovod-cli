import HranoModel.Model.Reports
import HranoModel.Lemmas.Digits
/-
  For C15: colour codes and their removal, middle truncation, stable sort by value.
-/
namespace Hrano
namespace Report
open Bytes

inductive StripSt where
  | normal | sawEsc | inEsc

/-- remove `ESC [ … m` sequences -/
def strip : StripSt → Bytes → Bytes
  | .normal, [] => []
  | .sawEsc, [] => [0x1B]
  | .inEsc, [] => []
  | .normal, c :: r => if c == 0x1B then strip .sawEsc r else c :: strip .normal r
  | .sawEsc, c :: r =>
    if c == 0x5B then strip .inEsc r
    else if c == 0x1B then 0x1B :: strip .sawEsc r
    else 0x1B :: c :: strip .normal r
  | .inEsc, c :: r => if c == 0x6D then strip .normal r else strip .inEsc r

def stripAnsi (s : Bytes) : Bytes := strip .normal s

def noEsc (s : Bytes) : Prop := ∀ c ∈ s, c ≠ 0x1B

/-! ### text without ESC bytes: closed under the operations the renderers use (a `simp` set) -/

@[simp] theorem noEsc_nil : noEsc [] := fun _ h => nomatch h

@[simp] theorem noEsc_cons {c : UInt8} {s : Bytes} : noEsc (c :: s) ↔ c ≠ 0x1B ∧ noEsc s := by simp [noEsc]

@[simp] theorem noEsc_append {a b : Bytes} : noEsc (a ++ b) ↔ noEsc a ∧ noEsc b := by
  simp only [noEsc, List.mem_append]
  exact ⟨fun h => ⟨fun c hc => h c (.inl hc), fun c hc => h c (.inr hc)⟩, fun h c hc => hc.elim (h.1 c) (h.2 c)⟩

@[simp] theorem noEsc_flatten {l : List Bytes} : noEsc l.flatten ↔ ∀ s ∈ l, noEsc s := by
  induction l <;> simp_all

theorem noEsc_replicate (n : Nat) (c : UInt8) (hc : c ≠ 0x1B) : noEsc (List.replicate n c) :=
  fun _ hx => (List.mem_replicate.mp hx).2 ▸ hc

@[simp] theorem noEsc_dashes (n : Nat) : noEsc (dashes n) := noEsc_replicate n 45 (by decide)

@[simp] theorem noEsc_padLeft (w : Nat) (s : Bytes) : noEsc (padLeft 32 w s) ↔ noEsc s := by
  simp [padLeft, noEsc_replicate]

@[simp] theorem noEsc_padRight (w : Nat) (s : Bytes) : noEsc (padRight 32 w s) ↔ noEsc s := by
  simp [padRight, noEsc_replicate]

@[simp] theorem noEsc_natDigits (n : Nat) : noEsc (natDigits n) :=
  fun c hc => Num.digit_ne (Num.natDigits_isDigit n c hc) (by decide)

@[simp] theorem noEsc_fmtFixed (p : Nat) (q : Q) : noEsc (Num.fmtFixed p q) := by
  simp only [Num.fmtFixed, Num.fixedDigits, natPad, noEsc_append, noEsc_natDigits, true_and]
  constructor <;> split <;> simp [noEsc_replicate]

@[simp] theorem noEsc_fmtFixedW (w p : Nat) (q : Q) : noEsc (Num.fmtFixedW w p q) := by
  simp [Num.fmtFixedW]

theorem strip_noEsc_append (a b : Bytes) (h : noEsc a) : strip .normal (a ++ b) = a ++ strip .normal b := by
  induction a with
  | nil => rfl
  | cons c r ih =>
    obtain ⟨hc, hr⟩ := noEsc_cons.mp h
    simp [strip, hc, ih hr]

theorem strip_inEsc_code (code rest : Bytes) (h : ∀ c ∈ code, c ≠ 0x6D) :
    strip .inEsc (code ++ 0x6D :: rest) = strip .normal rest := by
  induction code with
  | nil => simp [strip]
  | cons c r ih =>
    have hc : (c == 0x6D) = false := by simpa using h c (List.mem_cons_self)
    simp only [List.cons_append, strip, hc, Bool.false_eq_true, if_false]
    exact ih (fun x hx => h x (List.mem_cons_of_mem _ hx))

theorem strip_esc (code rest : Bytes) (h : ∀ c ∈ code, c ≠ 0x6D) : strip .normal (esc code ++ rest) = strip .normal rest := by
  have : esc code ++ rest = 0x1B :: 0x5B :: (code ++ 0x6D :: rest) := by simp [esc, List.append_assoc]
  rw [this]
  simp only [strip, BEq.rfl, if_true]
  exact strip_inEsc_code code rest h

theorem strip_fmtVal (v : Q) (rest : Bytes) :
    strip .normal (fmtVal true v ++ rest) = fmtVal false v ++ strip .normal rest := by
  have hn := noEsc_fmtFixedW 10 2 v
  have hreset : strip .normal (reset ++ rest) = strip .normal rest := strip_esc [48] rest (by decide)
  unfold fmtVal
  simp only [if_true, Bool.false_eq_true, if_false]
  split
  · simp only [red, List.append_assoc]
    rw [strip_esc [51, 49] _ (by decide), strip_noEsc_append _ _ hn, hreset]
  · split
    · simp only [green, List.append_assoc]
      rw [strip_esc [51, 50] _ (by decide), strip_noEsc_append _ _ hn, hreset]
    · exact strip_noEsc_append _ _ hn

/-- `c` is `p` with colour codes put in: stripped in front of any text it leaves `p` in front of the stripped text.
    (A structure, so that `intro` and `apply` do not see through it.) -/
structure StripsTo (c p : Bytes) : Prop where
  strip_append : ∀ rest, strip .normal (c ++ rest) = p ++ strip .normal rest

namespace StripsTo

theorem stripAnsi_eq {c p : Bytes} (h : StripsTo c p) : stripAnsi c = p := by
  simpa [stripAnsi, strip] using h.strip_append []

theorem plain {s : Bytes} (h : noEsc s) : StripsTo s s := ⟨fun rest => strip_noEsc_append s rest h⟩

theorem append {a a' b b' : Bytes} (ha : StripsTo a a') (hb : StripsTo b b') : StripsTo (a ++ b) (a' ++ b') :=
  ⟨fun rest => by rw [List.append_assoc, ha.strip_append, hb.strip_append, List.append_assoc]⟩

/-- a row is read from left to right: what stands so far, then a figure (`fig`) or text without colour (`text`) -/
theorem fig {a a' : Bytes} (h : StripsTo a a') (v : Q) : StripsTo (a ++ fmtVal true v) (a' ++ fmtVal false v) :=
  h.append ⟨strip_fmtVal v⟩

theorem text {a a' b : Bytes} (h : StripsTo a a') (hb : noEsc b) : StripsTo (a ++ b) (a' ++ b) :=
  h.append (plain hb)

theorem ite {c : Prop} [Decidable c] {a a' b b' : Bytes} (ha : c → StripsTo a a') (hb : ¬c → StripsTo b b') :
    StripsTo (if c then a else b) (if c then a' else b') := by
  split
  · exact ha ‹_›
  · exact hb ‹_›

theorem rows {α : Type} {f g : α → Bytes} {xs : List α} (h : ∀ x ∈ xs, StripsTo (f x) (g x)) :
    StripsTo (xs.map f).flatten (xs.map g).flatten := by
  induction xs with
  | nil => exact plain noEsc_nil
  | cons x xs ih =>
    simp only [List.map_cons, List.flatten_cons]
    exact append (h x List.mem_cons_self) (ih fun y hy => h y (List.mem_cons_of_mem _ hy))

end StripsTo

/-- keeping the first `δ` and the last `max − 1 − δ` of more than `max` items: what lies between, and the lengths -/
theorem ends_of_long {α : Type} (rs : List α) (max δ : Nat) (hδ : δ ≤ max - 1) (h1 : 1 ≤ max) (hlong : max < rs.length) :
    ∃ mid, rs = rs.take δ ++ mid ++ rs.drop (rs.length - max + 1 + δ)
      ∧ (rs.take δ).length = δ ∧ (rs.drop (rs.length - max + 1 + δ)).length = max - 1 - δ
      ∧ (rs.take δ).length + 1 + (rs.drop (rs.length - max + 1 + δ)).length = max := by
  have hsum : δ + 1 + (max - 1 - δ) = max := by omega
  have ht : (rs.take δ).length = δ := List.length_take_of_le (Nat.le_trans hδ (Nat.le_trans (Nat.sub_le ..) (Nat.le_of_lt hlong)))
  have hd : (rs.drop (rs.length - max + 1 + δ)).length = max - 1 - δ := by
    rw [List.length_drop, ← Nat.sub_sub, ← Nat.sub_sub, Nat.sub_sub_self (Nat.le_of_lt hlong)]
  refine ⟨(rs.drop δ).take (rs.length - max + 1), ?_, ht, hd, by rw [ht, hd, hsum]⟩
  rw [Nat.add_comm _ δ, ← List.drop_drop, List.append_assoc, List.take_append_drop, List.take_append_drop]

theorem insertByValue_perm (desc : Bool) (e : Element) : ∀ l, (insertByValue desc e l).Perm (e :: l)
  | [] => List.Perm.refl _
  | x :: xs => by
    unfold insertByValue
    -- the test is itself an `if`: `split` would take the inner one
    by_cases hc : (if desc = true then e.value > x.value else e.value < x.value)
    · rw [if_pos hc]
    · rw [if_neg hc]
      exact ((insertByValue_perm desc e xs).cons x).trans (List.Perm.swap e x xs)

theorem stableByValue_perm (desc : Bool) (es : Elements) : (stableByValue desc es).Perm es := by
  suffices ∀ acc : Elements, (es.foldl (fun acc e => insertByValue desc e acc) acc).Perm (acc ++ es) by
    simpa [stableByValue] using this []
  induction es with
  | nil => intro acc; simp
  | cons e r ih =>
    intro acc
    exact (ih _).trans (((insertByValue_perm desc e acc).append_right r).trans List.perm_middle.symm)

end Report
end Hrano
