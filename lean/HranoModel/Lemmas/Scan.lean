import HranoModel.Model.Parser
import HranoModel.Lemmas.Bytes
/-
  The scanner reports no error exactly when nothing was cut (`scan_ok_iff`), and then delivers every line.
-/
namespace Hrano

namespace Scanner
open Bytes

theorem takeFitting_flag (ls : List Bytes) : (takeFitting ls).2 = ls.any (·.length ≥ PConst.maxToken) := by
  induction ls with
  | nil => rfl
  | cons l r ih => by_cases hl : l.length ≥ PConst.maxToken <;> simp [takeFitting, hl, ih]

theorem takeFitting_of_fit (ls : List Bytes) (h : ∀ l ∈ ls, l.length < PConst.maxToken) : takeFitting ls = (ls, false) := by
  induction ls with
  | nil => rfl
  | cons l r ih =>
    have hl : ¬ l.length ≥ PConst.maxToken := Nat.not_le.mpr (h l List.mem_cons_self)
    simp only [takeFitting, hl, if_false, ih fun x hx => h x (List.mem_cons_of_mem _ hx)]

theorem scan_ok_iff (s : Bytes) (fa : Option Nat) :
    (scan s fa).2 = none ↔ (∀ k, fa = some k → s.length < k) ∧ ∀ l ∈ rawLines s, l.length < PConst.maxToken := by
  have hfit : ∀ t : Bytes, (takeFitting (rawLines t)).2 = false ↔ ∀ l ∈ rawLines t, l.length < PConst.maxToken := by
    intro t; rw [takeFitting_flag]; simp
  rcases fa with _ | k
  · simp [scan, served, ← hfit]
  · by_cases hk : k ≤ s.length
    · simp only [scan, served, hk, if_true]
      constructor
      · intro h; split at h <;> cases h
      · exact fun h => absurd (h.1 k rfl) (Nat.not_lt.mpr hk)
    · simp [scan, served, hk, ← hfit, Nat.lt_of_not_le hk]

theorem scan_of_ok (s : Bytes) (fa : Option Nat) (h : (scan s fa).2 = none) : scan s fa = ((rawLines s).map dropCR, none) := by
  obtain ⟨hfa, hfit⟩ := (scan_ok_iff s fa).mp h
  have hs : served s fa = (s, false) := by
    rcases fa with _ | k
    · rfl
    · simp [served, Nat.not_le.mpr (hfa k rfl)]
  simp [scan, hs, takeFitting_of_fit _ hfit]

theorem scan_of_fit (s : Bytes) (h : ∀ l ∈ rawLines s, l.length < PConst.maxToken) :
    scan s none = ((rawLines s).map dropCR, none) :=
  scan_of_ok s none ((scan_ok_iff s none).mpr ⟨nofun, h⟩)

theorem dropCR_id (l : Bytes) (h : l.getLast? ≠ some 13) : dropCR l = l := by
  unfold dropCR
  split
  · next heq => exact absurd heq h
  · rfl

theorem getLast?_append_of_ne_nil {α} (a : List α) {b : List α} (h : b ≠ []) : (a ++ b).getLast? = b.getLast? := by
  rw [List.getLast?_append, Option.or_of_isSome (List.getLast?_isSome.mpr h)]

theorem rawLines_nil : rawLines [] = [] := rfl

theorem rawLines_append (u t₂ : Bytes) : rawLines (u ++ 10 :: t₂) = splitOn 10 u ++ rawLines t₂ := by
  have hne := splitOn_ne_nil 10 t₂
  simp only [rawLines, splitOn_append_sep, getLast?_append_of_ne_nil _ hne]
  split
  · rw [List.dropLast_append_of_ne_nil hne]
  · rfl

theorem rawLines_terminated (u : Bytes) : rawLines (u ++ [10]) = splitOn 10 u := by
  rw [rawLines_append, rawLines_nil, List.append_nil]

theorem rawLines_lines (ls : List Bytes) (h : ∀ l ∈ ls, 10 ∉ l) : rawLines ((ls.map (· ++ [10])).flatten) = ls := by
  induction ls with
  | nil => exact rawLines_nil
  | cons l r ih =>
    simp only [List.map_cons, List.flatten_cons, List.append_assoc, List.singleton_append]
    rw [rawLines_append, splitOn_no_sep 10 l (h l List.mem_cons_self), ih fun x hx => h x (List.mem_cons_of_mem _ hx)]
    rfl

/-- a line the scanner hands on as it is (if it fits the buffer): no line feed inside, no carriage return at the end -/
def Clean (l : Bytes) : Prop := 10 ∉ l ∧ l.getLast? ≠ some 13

namespace Clean
theorem append {a b : Bytes} (ha : 10 ∉ a) (hb : Clean b) (hne : b ≠ []) : Clean (a ++ b) :=
  ⟨fun h => (List.mem_append.mp h).elim ha hb.1, getLast?_append_of_ne_nil a hne ▸ hb.2⟩
end Clean

theorem scan_lines (ls : List Bytes) (h : ∀ l ∈ ls, Clean l ∧ l.length < PConst.maxToken) :
    scan ((ls.map (· ++ [10])).flatten) none = (ls, none) := by
  have hraw := rawLines_lines ls fun l hl => (h l hl).1.1
  rw [scan_of_fit _ (hraw.symm ▸ fun l hl => (h l hl).2), hraw,
    List.map_congr_left (g := id) fun l hl => dropCR_id l (h l hl).1.2, List.map_id]

end Scanner

namespace Parser

theorem eventsFaulty_eq_of_ok (cc : UInt8) (s : Bytes) (fa : Option Nat) (h : (eventsFaulty cc s fa).2 = none) :
    eventsFaulty cc s fa = eventsFaulty cc s none := by
  simp only [eventsFaulty, Scanner.scan_of_ok s fa h, Scanner.scan_of_fit s ((Scanner.scan_ok_iff s fa).mp h).2]

theorem events_of_lines (cc : UInt8) (ls : List Bytes) (h : ∀ l ∈ ls, Scanner.Clean l ∧ l.length < PConst.maxToken) :
    events cc ((ls.map (· ++ [10])).flatten) = parseLines cc true none 1 ls := by
  rw [events, Scanner.scan_lines ls h]

end Parser
end Hrano
