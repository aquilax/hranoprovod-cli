import HranoModel.Model.Parser
/-
  `parseLines` as a machine over lines (`stateAfter` is the record left open), and its error events against the
  specification `specErrors` (C09).
-/
namespace Hrano
namespace Parser

/-- the record that is open after a list of lines -/
def stateAfter (cc : UInt8) : Option Node → List Bytes → Option Node
  | cur, [] => cur
  | cur, l :: ls =>
    match classify cc l with
    | .skip => stateAfter cc cur ls
    | .heading h => stateAfter cc (some ⟨h, [], []⟩) ls
    | .indented k =>
      match cur with
      | none => stateAfter cc none ls
      | some n =>
        match k with
        | .note m => stateAfter cc (some { n with notes := n.notes ++ [m] }) ls
        | .badSyntax => stateAfter cc cur ls
        | .conversion _ => stateAfter cc cur ls
        | .entry name v => stateAfter cc (some { n with elements := n.elements ++ [⟨name, v⟩] }) ls
        | .entryNonFinite name => stateAfter cc (some { n with elements := n.elements ++ [⟨name, 0⟩] }) ls

-- This lemma, `parseLines_shift` and `Parser.errors_spec` go along the recursion of `parseLines` / `stateAfter`:
-- nine cases, each closed by its induction hypothesis.
theorem parseLines_append (cc : UInt8) (fin : Bool) (cur : Option Node) (ln : Nat) (ls₁ ls₂ : List Bytes) :
    parseLines cc fin cur ln (ls₁ ++ ls₂)
      = parseLines cc false cur ln ls₁ ++ parseLines cc fin (stateAfter cc cur ls₁) (ln + ls₁.length) ls₂ := by
  fun_induction stateAfter cc cur ls₁ generalizing ln <;> simp [parseLines, Nat.add_assoc, Nat.add_comm 1, *]

theorem parseLines_final (cc : UInt8) (cur : Option Node) (ln : Nat) (ls : List Bytes) :
    parseLines cc true cur ln ls = parseLines cc false cur ln ls ++ flush (stateAfter cc cur ls) := by
  simpa [parseLines] using parseLines_append cc true cur ln ls []

/-- the first line that is not skipped is a heading (or every line is skipped) -/
def HeadFirst (cc : UInt8) : List Bytes → Prop
  | [] => True
  | l :: ls => match classify cc l with
    | .skip => HeadFirst cc ls
    | .heading _ => True
    | .indented _ => False

theorem parseLines_headFirst (cc : UInt8) (cur : Option Node) (ln : Nat) (ls : List Bytes) (h : HeadFirst cc ls) :
    parseLines cc true cur ln ls = flush cur ++ parseLines cc true none ln ls := by
  fun_induction HeadFirst cc ls generalizing ln
  case case1 => simp [parseLines, flush]
  case case2 l ls hc ih =>
    rw [parseLines, parseLines, hc]
    exact ih _ h
  case case3 l ls hd hc =>
    rw [parseLines, parseLines, hc]
    simp [flush]
  case case4 => exact h.elim

def shiftErr (k : Nat) : PErr → PErr
  | .badSyntax ln raw => .badSyntax (ln + k) raw
  | .conversion t ln raw => .conversion t (ln + k) raw

def shiftEvent (k : Nat) : Event → Event
  | .node n => .node n
  | .error e => .error (shiftErr k e)

theorem map_shift_flush (k : Nat) (cur : Option Node) : (flush cur).map (shiftEvent k) = flush cur := by
  cases cur <;> rfl

theorem parseLines_shift (cc : UInt8) (fin : Bool) (cur : Option Node) (ln k : Nat) (ls : List Bytes) :
    parseLines cc fin cur (ln + k) ls = (parseLines cc fin cur ln ls).map (shiftEvent k) := by
  fun_induction parseLines cc fin cur ln ls <;>
    simp [parseLines, Nat.add_right_comm _ k 1, shiftEvent, shiftErr, map_shift_flush, *]

theorem parse_lines_concat (cc : UInt8) (ls₁ ls₂ : List Bytes) (h : HeadFirst cc ls₂) :
    parseLines cc true none 1 (ls₁ ++ ls₂)
      = parseLines cc true none 1 ls₁ ++ (parseLines cc true none 1 ls₂).map (shiftEvent ls₁.length) := by
  rw [parseLines_append, parseLines_headFirst cc _ _ ls₂ h, ← List.append_assoc, ← parseLines_final, parseLines_shift]

/-- the specification: malformed entry lines inside a record, with their physical line number and raw text.
    `opened` says whether a heading has been seen; `ln` is the 1-based number of the first line. -/
def specErrors (cc : UInt8) : Bool → Nat → List Bytes → List PErr
  | _, _, [] => []
  | opened, ln, l :: ls =>
    match classify cc l with
    | .skip => specErrors cc opened (ln + 1) ls
    | .heading _ => specErrors cc true (ln + 1) ls
    | .indented k =>
      if opened then
        (match k with
         | .badSyntax => [PErr.badSyntax ln l]
         | .conversion t => [PErr.conversion t ln l]
         | _ => []) ++ specErrors cc true (ln + 1) ls
      else specErrors cc false (ln + 1) ls

theorem errorsOf_append (a b : List Event) : errorsOf (a ++ b) = errorsOf a ++ errorsOf b := by
  simp [errorsOf, List.filterMap_append]

theorem errorsOf_flush (cur : Option Node) : errorsOf (flush cur) = [] := by
  cases cur <;> rfl

theorem errorsOf_cons_error (e : PErr) (evs : List Event) : errorsOf (.error e :: evs) = e :: errorsOf evs := rfl

theorem errors_spec (cc : UInt8) (fin : Bool) (cur : Option Node) (ln : Nat) (ls : List Bytes) :
    errorsOf (parseLines cc fin cur ln ls) = specErrors cc cur.isSome ln ls := by
  fun_induction parseLines cc fin cur ln ls <;>
    simp [specErrors, errorsOf_append, errorsOf_flush, errorsOf_cons_error, *]
  rfl

def lineOf : PErr → Nat
  | .badSyntax ln _ => ln
  | .conversion _ ln _ => ln

def rawOf : PErr → Bytes
  | .badSyntax _ raw => raw
  | .conversion _ _ raw => raw

theorem spec_line_exact (cc : UInt8) (opened : Bool) (start : Nat) (ls : List Bytes) (e : PErr)
    (h : e ∈ specErrors cc opened start ls) : ∃ i, lineOf e = start + i ∧ ls[i]? = some (rawOf e) := by
  -- an error of the lines after the first is found one line further down
  have shift {l : Bytes} {r : List Bytes} {start : Nat} :
      (∃ i, lineOf e = start + 1 + i ∧ r[i]? = some (rawOf e)) → ∃ i, lineOf e = start + i ∧ (l :: r)[i]? = some (rawOf e) :=
    fun ⟨i, h1, h2⟩ => ⟨i + 1, by rw [h1, Nat.add_assoc, Nat.add_comm 1], h2⟩
  fun_induction specErrors cc opened start ls
  case case1 => cases h
  case case4 ln l _ k _ ih =>
    rcases List.mem_append.mp h with h | h
    · cases k <;> simp at h <;> subst h <;> exact ⟨0, rfl, rfl⟩
    · exact shift (ih h)
  all_goals next ih => exact shift (ih h)

theorem spec_lines_increasing (cc : UInt8) (opened : Bool) (start : Nat) (ls : List Bytes) :
    ((specErrors cc opened start ls).map lineOf).Pairwise (· < ·) := by
  fun_induction specErrors cc opened start ls
  case case1 => exact .nil
  case case4 ln l ls k _ ih =>
    -- the error of the first line, if any, has its number; those of the other lines have larger ones
    rw [List.map_append]
    refine List.pairwise_append.mpr ⟨by cases k <;> simp, ih, fun a ha b hb => ?_⟩
    obtain ⟨e, he, rfl⟩ := List.mem_map.mp hb
    obtain ⟨i, hi, -⟩ := spec_line_exact cc true (ln + 1) ls e he
    cases k <;> simp [lineOf] at ha <;> omega
  all_goals assumption

end Parser
end Hrano
