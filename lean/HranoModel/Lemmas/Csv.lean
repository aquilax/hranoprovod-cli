import HranoModel.Lemmas.Bytes
import HranoModel.Spec.Csv
/-
  For C13: the independent reader inverts the writer.  A written field is always followed by the
  separator or by the LF that ends the record, so every lemma is about a text `… ++ c :: r` with `c` such a byte.
  Each loop of the reader spends one unit of fuel per field or per record (`readRecord_step`, `readAll_step`) and starts
  with one more than the length of its text, which has at least as many bytes as fields and as records
  (`length_le_csvRecord`, `length_le_written`).
-/
namespace Hrano
namespace Csv
open Report

def sep : UInt8 := Facts.csvSeparator

def escape (f : Bytes) : Bytes := (f.map (fun c => if c == 34 then [34, 34] else [c])).flatten

theorem escape_cons (b : UInt8) (bs : Bytes) : escape (b :: bs) = (if b == 34 then [34, 34] else [b]) ++ escape bs := rfl

theorem csvField_eq (f : Bytes) : csvField f = if csvNeedsQuotes f then 34 :: (escape f ++ [34]) else f := rfl

theorem csvRecord_eq (fs : List Bytes) : csvRecord fs = Bytes.join sep (fs.map csvField) ++ [10] := rfl

theorem csvRecord_cons (f g : Bytes) (gs : List Bytes) : csvRecord (f :: g :: gs) = csvField f ++ sep :: csvRecord (g :: gs) := by
  simp [csvRecord_eq, Bytes.join]

theorem csvRecord_ne_nil (fs : List Bytes) : csvRecord fs ≠ [] :=
  List.append_ne_nil_of_right_ne_nil _ (List.cons_ne_nil _ _)

theorem readQuoted_other {b : UInt8} (r acc : Bytes) (h : b ≠ 34) : readQuoted (b :: r) acc = readQuoted r (b :: acc) := by
  cases r <;> simp [readQuoted, h]

theorem readQuoted_escape (f : Bytes) (c : UInt8) (r : Bytes) (hc : c ≠ 34) (acc : Bytes) :
    readQuoted (escape f ++ 34 :: c :: r) acc = some (acc.reverse ++ f, c :: r) := by
  induction f generalizing acc with
  | nil => simp [escape, readQuoted, hc]
  | cons b bs ih =>
    rw [escape_cons]
    split
    · next hb =>
      cases beq_iff_eq.mp hb
      simp [readQuoted, ih]
    · next hb => simp [readQuoted_other _ _ (mt beq_iff_eq.mpr hb), ih]

theorem readUnquoted_plain (sep : UInt8) (f : Bytes) (hf : ∀ b ∈ f, b ≠ sep ∧ b ≠ 10) (c : UInt8) (r : Bytes) (hc : c = sep ∨ c = 10)
    (acc : Bytes) : readUnquoted sep (f ++ c :: r) acc = (acc.reverse ++ f, c :: r) := by
  induction f generalizing acc with
  | nil =>
    have : (c == sep || c == 10) = true := by rcases hc with h | h <;> simp [h]
    simp [readUnquoted, this]
  | cons b bs ih =>
    have hb := hf b List.mem_cons_self
    simp [readUnquoted, hb.1, hb.2, ih fun x hx => hf x (List.mem_cons_of_mem _ hx)]

theorem plain_of_not_needsQuotes (f : Bytes) (hq : csvNeedsQuotes f = false) : ∀ b ∈ f, b ≠ sep ∧ b ≠ 10 ∧ b ≠ 34 := by
  intro b hb
  cases hany : f.any (fun c => c == 10 || c == 13 || c == 34 || c == Facts.csvSeparator)
  · have := List.any_eq_false.mp hany b hb
    simp only [Bool.or_eq_true, beq_iff_eq, not_or] at this
    exact ⟨this.2, this.1.1.1, this.1.2⟩
  · cases f with
    | nil => cases hb
    | cons x xs =>
      rw [csvNeedsQuotes, List.isEmpty_cons, if_neg Bool.false_ne_true, hany, if_pos rfl, ite_self] at hq
      cases hq

theorem readField_csvField (f : Bytes) (c : UInt8) (r : Bytes) (hc : c = sep ∨ c = 10) :
    readField sep (csvField f ++ c :: r) = some (f, c :: r) := by
  have hc34 : c ≠ 34 := by rcases hc with rfl | rfl <;> decide
  rw [csvField_eq]
  cases hq : csvNeedsQuotes f
  · have hall := plain_of_not_needsQuotes f hq
    -- the second equation of `readField` asks that the text does not start with a quote
    rw [if_neg Bool.false_ne_true, readField, readUnquoted_plain sep f (fun b hb => ⟨(hall b hb).1, (hall b hb).2.1⟩) c r hc]
    · rfl
    · intro r' heq
      cases f with
      | nil => exact hc34 (List.cons.inj heq).1
      | cons x xs => exact (hall x List.mem_cons_self).2.2 (List.cons.inj heq).1
  · rw [if_pos rfl, List.cons_append, List.append_assoc, List.singleton_append, readField, readQuoted_escape f c r hc34]
    rfl

theorem readRecord_step {sep : UInt8} {s f rest : Bytes} {c : UInt8} (h : readField sep s = some (f, c :: rest)) (fuel : Nat) (acc : List Bytes) :
    readRecord sep (fuel + 1) s acc =
      if c = 10 then some ((f :: acc).reverse, rest) else if c = sep then readRecord sep fuel rest (f :: acc) else none := by
  rw [readRecord, h]
  by_cases hc : c = 10
  · subst hc
    simp
  · simp [hc]

theorem readRecord_csv (fs : List Bytes) (fuel : Nat) (acc : List Bytes) (more : Bytes) (hne : fs ≠ []) (hlen : fs.length ≤ fuel) :
    readRecord sep fuel (csvRecord fs ++ more) acc = some (acc.reverse ++ fs, more) := by
  induction fs generalizing fuel acc with
  | nil => exact absurd rfl hne
  | cons f gs ih =>
    cases fuel with
    | zero => cases hlen
    | succ fuel =>
      cases gs with
      | nil =>
        rw [csvRecord_eq, List.map_singleton, Bytes.join, List.append_assoc, List.singleton_append,
          readRecord_step (readField_csvField f 10 more (.inr rfl)), if_pos rfl, List.reverse_cons]
      | cons g gs =>
        rw [csvRecord_cons, List.append_assoc, List.cons_append, readRecord_step (readField_csvField f sep _ (.inl rfl)),
          if_neg (by decide), if_pos rfl, ih fuel (f :: acc) nofun (Nat.le_of_succ_le_succ hlen), List.reverse_cons, List.append_assoc]
        rfl

/-- every field is followed by a separator or by the LF: a record has at least as many bytes as fields -/
theorem length_le_csvRecord : ∀ fs : List Bytes, fs.length ≤ (csvRecord fs).length
  | [] => Nat.zero_le _
  | [f] => by simp [csvRecord_eq, Bytes.join]
  | f :: g :: gs => by
    rw [csvRecord_cons, List.length_append, List.length_cons]
    exact Nat.succ_le_succ (Nat.le_trans (length_le_csvRecord (g :: gs)) (Nat.le_add_left _ _))

theorem readAll_step {sep : UInt8} {s rest : Bytes} {rec : List Bytes} (hs : s ≠ []) (h : readRecord sep (s.length + 1) s [] = some (rec, rest))
    (fuel : Nat) : readAll sep (fuel + 1) s = (readAll sep fuel rest).map (rec :: ·) := by
  cases s with
  | nil => exact absurd rfl hs
  | cons x xs =>
    rw [readAll, h]
    dsimp only
    cases readAll sep fuel rest <;> rfl

theorem readAll_write (rows : List (List Bytes)) (hne : ∀ r ∈ rows, r ≠ []) (fuel : Nat) (hf : rows.length < fuel) :
    readAll sep fuel (rows.map csvRecord).flatten = some rows := by
  induction rows generalizing fuel with
  | nil =>
    cases fuel with
    | zero => cases hf
    | succ _ => rfl
  | cons r rs ih =>
    cases fuel with
    | zero => cases hf
    | succ fuel =>
      rw [List.map_cons, List.flatten_cons]
      -- the inner loop gets one unit of fuel more than the text is long, which is at least the record with its fields
      have hr : r.length ≤ (csvRecord r ++ (rs.map csvRecord).flatten).length + 1 :=
        Nat.le_succ_of_le (Nat.le_trans (length_le_csvRecord r) (by rw [List.length_append]; exact Nat.le_add_right _ _))
      rw [readAll_step (List.append_ne_nil_of_left_ne_nil (csvRecord_ne_nil r) _) (readRecord_csv r _ [] _ (hne r List.mem_cons_self) hr),
        ih (fun r' hr' => hne r' (List.mem_cons_of_mem _ hr')) fuel (Nat.lt_of_succ_lt_succ hf)]
      rfl

/-- … and a written text at least as many bytes as records -/
theorem length_le_written (rows : List (List Bytes)) : rows.length ≤ (rows.map csvRecord).flatten.length := by
  induction rows with
  | nil => exact Nat.zero_le _
  | cons r rs ih =>
    rw [List.map_cons, List.flatten_cons, List.length_append, List.length_cons, Nat.add_comm]
    exact Nat.add_le_add (List.length_pos_iff.mpr (csvRecord_ne_nil r)) ih

end Csv
end Hrano
