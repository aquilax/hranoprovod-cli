import HranoModel.Model.Num
/-
  `%.Nf` rounds to nearest with ties to even: the printed value is within half a unit of the last digit, a value with `N`
  decimals is printed exactly, and printing what was printed prints the same.
-/
namespace Hrano
namespace Num

/-- the rounded integer is within half a unit of the exact quotient: `|k·d − n| · 2 ≤ d` -/
theorem roundHalfEven_close (n d : Nat) (hd : 0 < d) :
    2 * (roundHalfEven n d * d) ≤ 2 * n + d ∧ 2 * n ≤ 2 * (roundHalfEven n d * d) + d := by
  have h := Nat.div_add_mod' n d
  have hr : n % d < d := Nat.mod_lt n hd
  unfold roundHalfEven
  simp only [Bool.or_eq_true, decide_eq_true_eq, Bool.and_eq_true, beq_iff_eq]
  -- `omega` is given the quotient times `d` and the remainder as variables
  generalize n % d = r at h hr
  generalize hx : n / d * d = x at h
  split
  · rw [Nat.add_mul, Nat.one_mul, hx]
    omega
  · rw [hx]
    omega

theorem roundHalfEven_exact (k d : Nat) (hd : 0 < d) : roundHalfEven (k * d) d = k := by
  -- the remainder is 0: neither the "above half" nor the "tie" test fires
  simp [roundHalfEven, Nat.mul_div_cancel k hd, Nat.mul_mod_left k d, Nat.ne_of_lt hd]

theorem pow10_pos (p : Nat) : 0 < 10 ^ p := Nat.pow_pos (by omega)

theorem fixedDigits_pos (p k : Nat) (hp : 0 < p) :
    fixedDigits p k = Bytes.natDigits (k / 10 ^ p) ++ 46 :: Bytes.natPad p (k % 10 ^ p) := by
  rw [fixedDigits, beq_eq_false_iff_ne.mpr (Nat.ne_of_gt hp)]
  rfl

theorem mkRat_cross (k : Int) {d : Nat} (hd : d ≠ 0) : (mkRat k d).num * (d : Int) = k * ((mkRat k d).den : Int) :=
  (Rat.mkRat_eq_iff (Rat.den_nz _) hd).mp (Rat.mkRat_self _)

theorem roundedAt_exact (k : Int) (p : Nat) : roundedAt p (mkRat k (10 ^ p)) = k.natAbs := by
  have h := congrArg Int.natAbs (mkRat_cross k (Nat.ne_of_gt (pow10_pos p)))
  rw [Int.natAbs_mul, Int.natAbs_mul, Int.natAbs_natCast, Int.natAbs_natCast] at h
  rw [roundedAt, h]
  exact roundHalfEven_exact _ _ (Rat.den_pos _)

theorem mkRat_num_neg_iff (k : Int) (p : Nat) : (mkRat k (10 ^ p)).num < 0 ↔ k < 0 := by
  rw [← Int.not_le, ← Int.not_le, Rat.num_nonneg, ← Rat.divInt_ofNat, Rat.divInt_nonneg_iff_of_pos_right (Int.natCast_pos.mpr (pow10_pos p))]

theorem fmtFixed_exact (k : Int) (p : Nat) :
    fmtFixed p (mkRat k (10 ^ p)) = (if k < 0 then [45] else []) ++ fixedDigits p k.natAbs := by
  rw [fmtFixed, roundedAt_exact, ite_cond_congr (propext (mkRat_num_neg_iff k p))]

/-- the exact value of what `%.<p>f` prints for `q` -/
def printedValue (p : Nat) (q : Q) : Q :=
  mkRat (if q.num < 0 then -(roundedAt p q : Int) else (roundedAt p q : Int)) (10 ^ p)

/-- printing what was printed prints the same (unless a negative value was rounded to zero: the program keeps
    the sign in a float's negative zero, which exact arithmetic does not have) -/
theorem fmtFixed_stable (p : Nat) (q : Q) (h : q.num < 0 → roundedAt p q ≠ 0) :
    fmtFixed p (printedValue p q) = fmtFixed p q := by
  rw [printedValue, fmtFixed_exact, fmtFixed]
  -- `±r` has the sign of `q` (as `r ≠ 0`) and the magnitude `r`
  by_cases hq : q.num < 0
  · have := h hq
    rw [if_pos hq, if_pos hq, if_pos (by omega), Int.natAbs_neg, Int.natAbs_natCast]
  · rw [if_neg hq, if_neg hq, if_neg (by omega), Int.natAbs_natCast]

end Num
end Hrano
