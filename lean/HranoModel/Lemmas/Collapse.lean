import HranoModel.Lemmas.Tree
import HranoModel.Lemmas.Bytes
/-
  For C03: the collapsing printers print the plain rows of a tree whose chains of sole children
  have been joined, and joining keeps the leaf paths.  Joining a node with its only child is `relabel [n] t c`.
  The functions on lists are maps; the equations of those on trees are stated by content ("exactly one child",
  "the only child is a leaf", "some child") and not by the shape of the child list.
-/
namespace Hrano
namespace Spec
open Tree

mutual
/-- `--collapse` as a tree transformation: every chain of sole children becomes one node that carries the joined
    label and the amount of the chain's head; the children of the chain's end follow -/
def collapse : Tree → Tree
  | node n t [] => node n t []
  | node n t [c] =>
    match collapse c with
    | node m _ cs => node (n ++ Tree.sep :: m) t cs
  | node n t (c1 :: c2 :: cs) => node n t (collapse c1 :: collapse c2 :: collapseList cs)
def collapseList : List Tree → List Tree
  | [] => []
  | c :: cs => collapse c :: collapseList cs
end

mutual
/-- `--collapse-last` as a tree transformation: a node whose only child is a leaf is joined with it -/
def collapseLast : Tree → Tree
  | node n t [] => node n t []
  | node n t [node gn _ []] => node (n ++ Tree.sep :: gn) t []
  | node n t (c :: cs) => node n t (collapseLast c :: collapseLastList cs)
def collapseLastList : List Tree → List Tree
  | [] => []
  | c :: cs => collapseLast c :: collapseLastList cs
end

/-- give a node another label prefix and amount -/
def relabel (pre : List Bytes) (t : Q) : Tree → Tree
  | node m _ cs => node (Bytes.join Tree.sep (pre ++ [m])) t cs

mutual
/-- the leaves below a node with their full paths (`p` is the path so far, ending with the separator) and amounts -/
def leaves (p : Bytes) : Tree → List (Bytes × Q)
  | node n t [] => [(p ++ n, t)]
  | node n _ (c :: cs) => leavesList (p ++ n ++ [Tree.sep]) (c :: cs)
def leavesList (p : Bytes) : List Tree → List (Bytes × Q)
  | [] => []
  | c :: cs => leaves p c ++ leavesList p cs
end

mutual
/-- a node with exactly one child carries the amount of that child (nothing was logged at the node itself) -/
def chainOK : Tree → Bool
  | node _ _ [] => true
  | node _ t [c] => t == c.total && chainOK c
  | node _ _ (c1 :: c2 :: cs) => chainOK c1 && chainOK c2 && chainOKList cs
def chainOKList : List Tree → Bool
  | [] => true
  | c :: cs => chainOK c && chainOKList cs
end

theorem collapseList_eq_map (cs : List Tree) : collapseList cs = cs.map collapse := by
  induction cs with
  | nil => rfl
  | cons c cs ih => exact congrArg (collapse c :: ·) ih

theorem collapseLastList_eq_map (cs : List Tree) : collapseLastList cs = cs.map collapseLast := by
  induction cs with
  | nil => rfl
  | cons c cs ih => exact congrArg (collapseLast c :: ·) ih

theorem leavesList_eq_map (p : Bytes) (cs : List Tree) : leavesList p cs = (cs.map (leaves p)).flatten := by
  induction cs with
  | nil => rfl
  | cons c cs ih => exact congrArg (leaves p c ++ ·) ih

theorem chainOKList_iff (cs : List Tree) : chainOKList cs = true ↔ ∀ c ∈ cs, chainOK c = true := by
  induction cs with
  | nil => simp [chainOKList]
  | cons c cs ih => rw [chainOKList, Bool.and_eq_true, ih, List.forall_mem_cons]

theorem collapse_single (n : Bytes) (t : Q) (c : Tree) : collapse (node n t [c]) = relabel [n] t (collapse c) := by
  rw [collapse]; cases collapse c; rfl

theorem collapse_of_not_single {cs : List Tree} (h : ¬ ∃ c, cs = [c]) (n : Bytes) (t : Q) :
    collapse (node n t cs) = node n t (cs.map collapse) := by
  rcases cs with _ | ⟨c, _ | ⟨c2, cs⟩⟩
  · rw [collapse]; rfl
  · exact absurd ⟨c, rfl⟩ h
  · rw [collapse, collapseList_eq_map]; rfl

theorem collapseLast_of_not_leaf {cs : List Tree} (h : ¬ ∃ gn gt, cs = [node gn gt []]) (n : Bytes) (t : Q) :
    collapseLast (node n t cs) = node n t (cs.map collapseLast) := by
  cases cs with
  | nil => rw [collapseLast]; rfl
  | cons c cs =>
    rw [collapseLast, collapseLastList_eq_map]
    · rfl
    · intro gn gt hc hcs; exact h ⟨gn, gt, by rw [hc, hcs]⟩

theorem chainOK_node (n : Bytes) (t : Q) (cs : List Tree) :
    chainOK (node n t cs) = true ↔ (∀ c, cs = [c] → t = c.total) ∧ ∀ c ∈ cs, chainOK c = true := by
  rw [← chainOKList_iff]
  rcases cs with _ | ⟨c, _ | ⟨c2, cs⟩⟩
  · simp [chainOK, chainOKList]
  · simp [chainOK, chainOKList]
  · simp [chainOK, chainOKList, Bool.and_assoc]

theorem leaves_leaf (p n : Bytes) (t : Q) : leaves p (node n t []) = [(p ++ n, t)] := rfl

theorem leaves_inner {p n : Bytes} {t : Q} {cs : List Tree} (h : cs ≠ []) :
    leaves p (node n t cs) = (cs.map (leaves (p ++ n ++ [Tree.sep]))).flatten := by
  cases cs with
  | nil => exact absurd rfl h
  | cons c cs => rw [leaves, leavesList_eq_map]

theorem leaves_map_children (f : Tree → Tree) (p n : Bytes) (t : Q) (cs : List Tree)
    (h : ∀ c ∈ cs, ∀ p, leaves p (f c) = leaves p c) : leaves p (node n t (cs.map f)) = leaves p (node n t cs) := by
  cases cs with
  | nil => rfl
  | cons d ds =>
    rw [leaves_inner (List.cons_ne_nil _ _), leaves_inner (by simp), List.map_map]
    exact congrArg _ (List.map_congr_left fun c hc => h c hc _)

theorem relabel_relabel (pre : List Bytes) (n : Bytes) (t t' : Q) (c : Tree) :
    relabel pre t (relabel [n] t' c) = relabel (pre ++ [n]) t c := by
  cases c with
  | node m _ cs => simp only [relabel, Bytes.join, List.cons_append, List.nil_append, List.append_assoc, Bytes.join_snoc2]

theorem relabel_nil (c : Tree) : relabel [] c.total c = c := by
  cases c; rfl

theorem relabel_total (pre : List Bytes) (t : Q) (c : Tree) : (relabel pre t c).total = t := by
  cases c; rfl

theorem leaves_relabel (p n : Bytes) (c : Tree) : leaves p (relabel [n] c.total c) = leaves p (node n c.total [c]) := by
  rw [leaves_inner (List.cons_ne_nil _ _), List.map_singleton, List.flatten_singleton]
  cases c with
  | node m t cs =>
    cases cs with
    | nil => simp [relabel, Bytes.join, leaves_leaf]
    | cons d ds => simp [relabel, Bytes.join, leaves_inner]

theorem collapse_total (c : Tree) : (collapse c).total = c.total := by
  cases c with
  | node n t cs =>
    by_cases h : ∃ c, cs = [c]
    · obtain ⟨c, rfl⟩ := h
      rw [collapse_single, relabel_total]; rfl
    · rw [collapse_of_not_single h]; rfl

theorem relabel_collapse (c : Tree) : relabel [] c.total (collapse c) = collapse c := by
  rw [← collapse_total c, relabel_nil]

theorem collapsed_is_plain (level : Nat) : ∀ (c : Tree) (pre : List Bytes) (t : Q),
    printCollapsedChild pre t level c = printChild false level (relabel pre t (collapse c)) := by
  intro c
  induction c generalizing level with
  | node n t0 cs ih =>
    intro pre t
    by_cases h : ∃ c, cs = [c]
    · obtain ⟨c, rfl⟩ := h
      rw [printCollapsedChild, ih c List.mem_cons_self, collapse_single, relabel_relabel]
    · rw [printCollapsedChild_of_not_single h, collapse_of_not_single h, relabel, printChild_plain,
        printCollapsedChildren_eq_map, printChildren_eq_map, List.map_map]
      congr 2
      exact List.map_congr_left fun c hc => by rw [ih c hc, relabel_collapse]; rfl

theorem collapse_leaves : ∀ (c : Tree) (p : Bytes), chainOK c = true → leaves p (collapse c) = leaves p c := by
  intro c
  induction c with
  | node n t cs ih =>
    intro p hok
    obtain ⟨ht, hcs⟩ := (chainOK_node n t cs).1 hok
    by_cases h : ∃ c, cs = [c]
    · obtain ⟨c, rfl⟩ := h
      -- `leaves_relabel` speaks of a child relabelled with its own amount, here that of `collapse c`, which is `c`'s
      rw [collapse_single, ht c rfl, ← collapse_total c, leaves_relabel, collapse_total]
      exact leaves_map_children collapse p n _ [c] fun d hd p => ih d hd p (hcs d hd)
    · rw [collapse_of_not_single h]
      exact leaves_map_children collapse p n t cs fun d hd p => ih d hd p (hcs d hd)

theorem collapseLast_is_plain (level : Nat) : ∀ c : Tree, printChild true level c = printChild false level (collapseLast c) := by
  intro c
  induction c generalizing level with
  | node n t cs ih =>
    by_cases h : ∃ gn gt, cs = [node gn gt []]
    · obtain ⟨gn, gt, rfl⟩ := h
      simp [printChild, collapseLast]
    · rw [printChild_true_of_not_leaf h, collapseLast_of_not_leaf h, printChild_plain, printChildren_eq_map, printChildren_eq_map,
        List.map_map, List.map_congr_left fun c hc => ih c hc (level + 1)]
      rfl

theorem collapseLast_leaves : ∀ (c : Tree) (p : Bytes), chainOK c = true → leaves p (collapseLast c) = leaves p c := by
  intro c
  induction c with
  | node n t cs ih =>
    intro p hok
    obtain ⟨ht, hcs⟩ := (chainOK_node n t cs).1 hok
    by_cases h : ∃ gn gt, cs = [node gn gt []]
    · obtain ⟨gn, gt, rfl⟩ := h
      rw [collapseLast, ht _ rfl]
      exact leaves_relabel p n (node gn gt [])
    · rw [collapseLast_of_not_leaf h]
      exact leaves_map_children collapseLast p n t cs fun d hd p => ih d hd p (hcs d hd)

end Spec
end Hrano
